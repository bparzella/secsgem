import SecsModel.Proofs.SecsILine
/-! Ranking function of the SECS-I line automaton (C17, bounded runs): `measure` drops with every enabled step from a reachable state
(`measure_step`), so no schedule is longer than its initial value `1 + Σ (40·|encᵢ| + 95)` (`measure_init`); since a state in which
`send_message` has not returned always has an enabled step (`inv_progress`, Proofs/SecsILineFacts.lean), every scheduler that keeps firing enabled steps (no fairness
assumption) makes the call return within that many steps. -/
namespace SecsModel.Proofs.SecsILine
open SecsModel SecsModel.Model.SecsI SecsModel.Model.SecsILine

def wBlock (enc : Bytes) : Nat := 40 * enc.length + 95

def wTodo : List Bytes → Nat
  | [] => 0
  | e :: rest => wBlock e + wTodo rest

def mApp : App → Nat
  | .none => 0
  | .fin _ => 0
  | .run todo false => 1 + wTodo todo
  | .run [] true => 2
  | .run (_ :: rest) true => 2 + wTodo rest

/-- a thread with nothing to do runs sendTop → recvLoop → idle (2 > 1 > 0) and is woken by the trigger, which `mThr` weighs 3 > 2;
a waiting position weighs nothing: what it waits for does -/
def mPc : TPc → Nat
  | .idle => 0 | .recvLoop _ => 1 | .sendTop => 2 | .waitEnq => 0 | .waitAck => 0 | .waitBlk _ => 0

/-- the queued block: its bytes still have to cross the line, and ENQ before them -/
def mSendQ (e : End) : Nat :=
  match e.sendQ with
  | [] => 0
  | enc :: _ => 40 * enc.length + 40 + (if e.pc = .waitEnq then 0 else 48)

def mThr (e : End) : Nat := (if e.trig then 3 else 0) + mPc e.pc

/-- remaining blocks (× their bytes), bytes in flight (dearer on the line than in a buffer, dearer towards the receiver than back), phase -/
def measure (s : State) : Nat :=
  mApp s.a.app + mSendQ s.a + mThr s.a + mThr s.b
    + 40 * s.ab.length + 36 * s.b.rxbuf.length + 16 * s.ba.length + 12 * s.a.rxbuf.length

theorem wTodo_nonneg (l : List Bytes) : 0 ≤ wTodo l := Nat.zero_le _

/-! Each endpoint's share, together with the bytes on their way to it, is one summand of the measure.  A delivery stays within one summand;
a thread step lowers its endpoint's share by more than it puts on the line to the peer. -/

def rankA (e : End) : Nat := mApp e.app + mSendQ e + mThr e + 12 * e.rxbuf.length

def rankB (e : End) : Nat := mThr e + 36 * e.rxbuf.length

theorem measure_eq (s : State) : measure s = (rankA s.a + 16 * s.ba.length) + (rankB s.b + 40 * s.ab.length) := by
  unfold measure rankA rankB; ac_rfl

theorem tamper_length (f : Option (Nat × Nat × Nat)) (i : Nat) (bs : Bytes) : (tamper f i bs).length = bs.length := by
  unfold tamper
  split
  · split <;> simp
  · rfl

theorem measure_emitA_lt {s : State} {e : End} {tx : Bytes} (h : rankA e + 40 * tx.length < rankA s.a) :
    measure (emitA s e tx) < measure s := by
  have : measure (emitA s e tx) = (rankA e + 16 * s.ba.length) + (rankB s.b + 40 * (s.ab.length + tx.length)) := by
    cases tx with
    | nil => rw [emitA_nil, measure_eq]; rfl
    | cons x xs => rw [emitA_cons, measure_eq]; simp only [List.length_append, tamper_length]
  rw [this, measure_eq s]; omega

theorem measure_emitB_lt {s : State} {e : End} {tx : Bytes} (h : rankB e + 16 * tx.length < rankB s.b) :
    measure (emitB s e tx) < measure s := by
  have : measure (emitB s e tx) = (rankA s.a + 16 * (s.ba.length + tx.length)) + (rankB e + 40 * s.ab.length) := by
    cases tx with
    | nil => rw [emitB_nil, measure_eq]; rfl
    | cons x xs => rw [emitB_cons, measure_eq]; simp only [List.length_append]
  rw [this, measure_eq s]; omega

/-- what the invariant says about the sending endpoint, as far as its steps' effect on `rankA` depends on it -/
structure ShapeA (e : End) : Prop where
  pc : Q e.pc ∨ e.pc = .waitEnq ∨ e.pc = .waitAck
  quiet : Q e.pc → e.rxbuf = []
  enq : e.pc = .waitEnq → (∃ enc, e.sendQ = [enc]) ∧ (e.rxbuf = [] ∨ e.rxbuf = [EOT])

structure ShapeB (e : End) : Prop where
  pc : Q e.pc ∨ e.pc = .waitBlk false
  sendQ : e.sendQ = []
  app : e.app = .none

theorem shape_of_inv {ctx : Ctx} {s : State} (h : Inv ctx s) : ShapeA s.a ∧ ShapeB s.b := by
  obtain ⟨done, todo, hc, hst⟩ := h
  have nq : ∀ {pc : TPc}, Q pc → pc ≠ .waitEnq := fun h e => by rw [e] at h; simp [Q] at h
  have shb : Q s.b.pc ∨ s.b.pc = .waitBlk false → ShapeB s.b := fun h => { pc := h, sendQ := hc.bq, app := hc.bapp }
  cases hst with
  | s0 _ _ hpa hpb harx | s1 _ _ _ _ _ _ _ hpa _ hpb harx | s6 _ _ _ _ _ _ _ hpa hpb harx | finOk _ _ _ hpa hpb harx
  | finBad _ _ _ _ _ _ _ hpa hpb harx =>
    exact ⟨{ pc := .inl hpa, quiet := fun _ => harx, enq := fun h => absurd h (nq hpa) }, shb (.inl hpb)⟩
  | s2 enc _ _ _ _ hq _ hpa hpb harx =>
    exact ⟨{ pc := .inr (.inl hpa), quiet := fun _ => harx, enq := fun _ => ⟨⟨enc, hq⟩, .inl harx⟩ }, shb (.inl hpb)⟩
  | s3 enc _ _ _ _ hq _ hpa hpb hpend =>
    have hrx : s.a.rxbuf = [] ∨ s.a.rxbuf = [EOT] := by
      cases hrx : s.a.rxbuf with
      | nil => exact .inl rfl
      | cons r rs => rw [hrx] at hpend; obtain ⟨rfl, rfl, _⟩ := cons_append_eq_singleton hpend; exact .inr rfl
    exact ⟨{ pc := .inr (.inl hpa), quiet := fun h => absurd hpa (nq h), enq := fun _ => ⟨⟨enc, hq⟩, hrx⟩ }, shb (.inr hpb)⟩
  | s4 _ _ _ _ _ _ _ hpa hpb harx =>
    have ne : s.a.pc ≠ .waitEnq := by rw [hpa]; exact fun h => nomatch h
    exact ⟨{ pc := .inr (.inr hpa), quiet := fun _ => harx, enq := fun h => absurd h ne }, shb (.inr hpb)⟩
  | s5 _ _ _ _ _ _ _ hpa hpb =>
    have ne : s.a.pc ≠ .waitEnq := by rw [hpa]; exact fun h => nomatch h
    have nquiet : ¬ Q s.a.pc := by rw [hpa]; simp [Q]
    exact ⟨{ pc := .inr (.inr hpa), quiet := fun h => absurd h nquiet, enq := fun h => absurd h ne }, shb (.inl hpb)⟩

/-! What the weights have to satisfy, step by step:
* a thread with nothing to do: idle → sendTop pays 2 with the trigger 3; sendTop → recvLoop → idle is 2 > 1 > 0
* `a` sends ENQ: 48 + 2 > 40;  `a` reads EOT and sends the block: 40·|enc| + 40 + 12 > 40·|enc|;  `a` reads the answer: 12 > 2
* `b` reads ENQ and sends EOT: 36 + 1 > 16;  `b` reads a frame of `l + 3` bytes and answers: 36·(l + 3) > 16 + 1
* a delivery of `n ≥ 1` bytes: 40·n > 36·n + 3 and 16·n > 12·n + 3
* `send_message` queues a block: 95 > 1 + 88 + 3 (`mSendQ` grows by at most 40·|blk| + 88, the trigger costs 3); its other moves
  lower `mApp` and touch nothing else -/

theorem rank_thrA {e e' : End} {tx : Bytes} (sh : ShapeA e) (h : thrStep e = some (e', tx)) :
    rankA e' + 40 * tx.length < rankA e := by
  rcases sh.pc with (hpc | hpc | hpc) | hpc | hpc
  · rw [thrStep_idle hpc] at h
    cases ht : e.trig <;> rw [ht] at h <;> cases h
    simp [rankA, mSendQ, mThr, hpc, ht, mPc]
  · cases hsq : e.sendQ with
    | nil =>
      rw [thrStep_sendTop_nil hpc hsq] at h; cases h
      simp [rankA, mSendQ, mThr, hpc, mPc, hsq]
    | cons x xs =>
      rw [thrStep_sendTop_cons hpc hsq] at h; cases h
      simp +arith [rankA, mSendQ, mThr, hpc, mPc, hsq]
  · rw [thrStep_recvLoop_nil hpc (sh.quiet (Or.inr (Or.inr hpc)))] at h; cases h
    simp [rankA, mSendQ, mThr, hpc, mPc, ret]
  · obtain ⟨⟨enc, hsq⟩, hrx | hrx⟩ := sh.enq hpc
    · rw [thrStep_blocked (.inl hpc) hrx] at h; cases h
    · rw [thrStep_waitEnq_go hpc hrx hsq (fun hh => eot_ne_enq hh.1)] at h; cases h
      simp +arith [rankA, mSendQ, mThr, hpc, mPc, hrx, hsq]
  · cases hrx : e.rxbuf with
    | nil => rw [thrStep_blocked (.inr (.inl hpc)) hrx] at h; cases h
    | cons r rest =>
      rw [thrStep_waitAck_cons hpc hrx] at h; cases h
      simp +arith [rankA, mSendQ, mThr, hpc, mPc, hrx]

theorem rank_thrB {e e' : End} {tx : Bytes} (sh : ShapeB e) (h : thrStep e = some (e', tx)) :
    rankB e' + 16 * tx.length < rankB e := by
  rcases sh.pc with (hpc | hpc | hpc) | hpc
  · rw [thrStep_idle hpc] at h
    cases ht : e.trig <;> rw [ht] at h <;> cases h
    simp [rankB, mThr, hpc, ht, mPc]
  · rw [thrStep_sendTop_nil hpc sh.sendQ] at h; cases h
    simp [rankB, mThr, hpc, mPc]
  · cases hrx : e.rxbuf with
    | nil =>
      rw [thrStep_recvLoop_nil hpc hrx] at h; cases h
      simp [rankB, mThr, hpc, mPc, ret]
    | cons r rest =>
      rw [thrStep_recvLoop_cons hpc hrx] at h; cases h
      simp +arith [rankB, mThr, hpc, mPc, hrx]
  · cases hrx : e.rxbuf with
    | nil => rw [thrStep_blocked (.inr (.inr ⟨_, hpc⟩)) hrx] at h; cases h
    | cons l rest =>
      by_cases hlen : rest.length < l + 2
      · rw [thrStep_waitBlk_short hpc hrx hlen] at h; cases h
      · rw [thrStep_waitBlk hpc hrx (Nat.le_of_not_lt hlen)] at h
        -- whatever `Block.decode` says: the frame's `l + 3` bytes leave the buffer, at most one byte goes out
        obtain ⟨hrx', htrig', hpc', htx⟩ :
            e'.rxbuf = e.rxbuf.drop (l + 3) ∧ e'.trig = e.trig ∧ mPc e'.pc ≤ 1 ∧ tx.length ≤ 1 := by
          split at h <;> cases h <;> exact ⟨rfl, rfl, by simp [mPc, ret], by simp⟩
        have hm : mPc e.pc = 0 := by rw [hpc]; rfl
        simp only [rankB, mThr, hm, hrx', htrig', List.length_drop, hrx, List.length_cons]; omega

theorem rank_appA {e e' : End} (h : appStep e = some e') : rankA e' < rankA e := by
  have app_lt : ∀ {a' : App} (sl : Option Bool), mApp a' < mApp e.app → rankA { e with slot := sl, app := a' } < rankA e :=
    fun _ h => Nat.add_lt_add_right (Nat.add_lt_add_right (Nat.add_lt_add_right h _) _) _
  cases happ : e.app with
  | none => rw [appStep_none happ] at h; cases h
  | fin ok => rw [appStep_fin happ] at h; cases h
  | run todo waiting =>
    cases waiting with
    | false =>
      cases todo with
      | nil => rw [appStep_done happ] at h; cases h; exact app_lt e.slot (by rw [happ]; decide)
      | cons blk rest =>
        rw [appStep_queue happ] at h; cases h
        -- the queued block costs at most `40·|blk| + 88` in `mSendQ`, the trigger 3: less than `wBlock blk`
        have hq : mSendQ { e with sendQ := e.sendQ ++ [blk], trig := true, slot := none, app := App.run (blk :: rest) true }
            ≤ mSendQ e + (40 * blk.length + 88) := by
          unfold mSendQ
          cases e.sendQ with
          | nil => simp only [List.nil_append]; split <;> omega
          | cons x xs => exact Nat.le_add_right ..
        simp only [rankA, mThr, happ, mApp, wTodo, wBlock, if_true] at hq ⊢
        omega
    | true =>
      cases hs : e.slot with
      | none => rw [appStep_waiting happ hs] at h; cases h
      | some ok =>
        rw [appStep_resolved happ hs] at h; cases h
        exact app_lt none (by rw [happ]; cases ok <;> cases todo <;> simp +arith [mApp, wTodo])

theorem rank_dlv (e : End) (ch : Bytes) {n : Nat} (h0 : 0 < n) (hn : n ≤ ch.length) :
    rankA { e with rxbuf := e.rxbuf ++ ch.take n, trig := true } + 16 * (ch.drop n).length < rankA e + 16 * ch.length
    ∧ rankB { e with rxbuf := e.rxbuf ++ ch.take n, trig := true } + 40 * (ch.drop n).length < rankB e + 40 * ch.length := by
  have hq : mSendQ { e with rxbuf := e.rxbuf ++ ch.take n, trig := true } = mSendQ e := rfl
  have hd : (ch.drop n).length + n = ch.length := by rw [List.length_drop]; exact Nat.sub_add_cancel hn
  simp only [rankA, rankB, hq, mThr, List.length_append, List.length_take, Nat.min_eq_left hn, if_true]
  constructor <;> omega

theorem measure_step (ctx : Ctx) (s : State) (l : Label) (s' : State) (hinv : Inv ctx s) (hs : step s l = some s') :
    measure s' < measure s := by
  obtain ⟨sha, shb⟩ := shape_of_inv hinv
  refine step_cases (P := fun s' => measure s' < _) hs (fun _ _ h => measure_emitA_lt (rank_thrA sha h))
    (fun _ _ h => measure_emitB_lt (rank_thrB shb h)) (fun e h => emitA_nil s e ▸ measure_emitA_lt (tx := []) (rank_appA h))
    (fun _ h => by rw [appStep_none shb.app] at h; cases h) ?_ ?_
  · intro n h0 hn
    rw [measure_eq, measure_eq s]
    exact Nat.add_lt_add_right (rank_dlv s.a s.ba h0 hn).1 _
  · intro n h0 hn
    rw [measure_eq, measure_eq s]
    exact Nat.add_lt_add_left (rank_dlv s.b s.ab h0 hn).2 _

theorem measure_init (h : Bool) (encs : List Bytes) (f : Option (Nat × Nat × Nat)) : measure (init h encs f) = 1 + wTodo encs := by
  simp [measure, init, mApp, mSendQ, mThr, mPc]

end SecsModel.Proofs.SecsILine
