import SecsModel.Proofs.HsmsHeader
import SecsModel.Model.Rx
/-! The receive loop `Model.Rx.extract` read without its fuel (`extract_eq`), by cases (`extract_cons`, `extract_induction`) and under
appending (`extract_resume`, `foldl_feed`: every statement about segmentation is an instance); `HsmsBlock.encode/decode` on
length field ++ ten bytes ++ body; what the Boolean check `OnData.noLostWakeup` establishes about runs. -/
namespace SecsModel.Proofs.HsmsRx
open SecsModel SecsModel.Gen SecsModel.Model.Rx SecsModel.Proofs.HsmsHdr

/-- the `decide +kernel` examples of `Props/C04` compare `Except` values -/
instance exceptDecEq {ε α : Type} [DecidableEq ε] [DecidableEq α] : DecidableEq (Except ε α) := fun a b =>
  match a, b with
  | .ok x, .ok y => if h : x = y then isTrue (by rw [h]) else isFalse (by intro e; cases e; exact h rfl)
  | .error x, .error y => if h : x = y then isTrue (by rw [h]) else isFalse (by intro e; cases e; exact h rfl)
  | .ok _, .error _ => isFalse (by intro e; cases e)
  | .error _, .ok _ => isFalse (by intro e; cases e)

theorem extractF_fuel : ∀ (f g : Nat) (buf : Bytes), buf.length ≤ f → buf.length ≤ g → extractF f buf = extractF g buf
  | 0, 0, _, _, _ => rfl
  | 0, g+1, buf, hf, _ => by rw [extractF, extractF, if_pos (by omega)]
  | f+1, 0, buf, _, hg => by rw [extractF, extractF, if_pos (by omega)]
  | f+1, g+1, buf, hf, hg => by
    simp only [extractF]
    refine ite_congr rfl (fun _ => rfl) fun h4 => ite_congr rfl (fun _ => rfl) fun hn => ?_
    rw [extractF_fuel f g _ (by rw [List.length_drop]; omega) (by rw [List.length_drop]; omega)]

theorem extract_eq (buf : Bytes) : extract buf =
    if buf.length < 4 then ⟨[], buf, false⟩ else
    if buf.length < ofBe (buf.take 4) + 4 then ⟨[], buf, false⟩ else
    match Block.decode (buf.take (ofBe (buf.take 4) + 4)) with
    | .error _ => ⟨[], buf.drop (ofBe (buf.take 4) + 4), true⟩
    | .ok b => ⟨b :: (extract (buf.drop (ofBe (buf.take 4) + 4))).frames, (extract (buf.drop (ofBe (buf.take 4) + 4))).rest,
        (extract (buf.drop (ofBe (buf.take 4) + 4))).aborted⟩ := by
  rw [extract, extractF_fuel buf.length (buf.length + 1) buf (Nat.le_refl _) (Nat.le_succ _)]
  simp only [extractF]
  refine ite_congr rfl (fun _ => rfl) fun h4 => ite_congr rfl (fun _ => rfl) fun hn => ?_
  rw [extractF_fuel buf.length _ (buf.drop _) (by rw [List.length_drop]; omega) (Nat.le_refl _)]
  rfl

theorem extract_short (buf : Bytes) (h : buf.length < 4) : extract buf = ⟨[], buf, false⟩ := by
  rw [extract_eq, if_pos h]

theorem extract_nil : extract [] = ⟨[], [], false⟩ := extract_short [] (by decide)

/-- `hn`: `raw` is a complete frame, its length field announces its own length -/
theorem extract_cons (raw rest : Bytes) (h4 : 4 ≤ raw.length) (hn : ofBe (raw.take 4) + 4 = raw.length) :
    extract (raw ++ rest) = match Block.decode raw with
      | .error _ => ⟨[], rest, true⟩
      | .ok b => ⟨b :: (extract rest).frames, (extract rest).rest, (extract rest).aborted⟩ := by
  have ht : (raw ++ rest).take 4 = raw.take 4 := List.take_append_of_le_length h4
  have hl : raw.length ≤ (raw ++ rest).length := by simp only [List.length_append]; omega
  rw [extract_eq, ht, hn, if_neg (by omega), if_neg (by omega), List.take_left, List.drop_left]

theorem extract_induction {P : Bytes → Prop} (settled : ∀ buf, extract buf = ⟨[], buf, false⟩ → P buf)
    (frame : ∀ raw rest, 4 ≤ raw.length → ofBe (raw.take 4) + 4 = raw.length → P rest → P (raw ++ rest)) (buf : Bytes) : P buf := by
  by_cases h : buf.length < 4 ∨ buf.length < ofBe (buf.take 4) + 4
  · refine settled buf (h.elim (extract_short buf) fun h => ?_)
    rw [extract_eq, if_pos h, ite_self]
  · have h4 : 4 ≤ buf.length := by omega
    have hn : ofBe (buf.take 4) + 4 ≤ buf.length := by omega
    rw [← List.take_append_drop (ofBe (buf.take 4) + 4) buf]
    refine frame _ _ (by simp only [List.length_take]; omega) ?_ (extract_induction settled frame _)
    rw [List.take_take, Nat.min_eq_left (by omega), List.length_take, Nat.min_eq_left hn]
termination_by buf.length
decreasing_by simp only [List.length_drop]; omega

/-- **the content of "independent of segmentation"**: running the loop on `a ++ b` is running it on `a`, then on what was left plus `b`
(and a run that an exception ended on `a` ends the same way on `a ++ b`) -/
theorem extract_resume (a b : Bytes) :
    extract (a ++ b) =
      if (extract a).aborted then ⟨(extract a).frames, (extract a).rest ++ b, true⟩
      else ⟨(extract a).frames ++ (extract ((extract a).rest ++ b)).frames, (extract ((extract a).rest ++ b)).rest,
            (extract ((extract a).rest ++ b)).aborted⟩ := by
  induction a using extract_induction with
  | settled a h => rw [h]; rfl
  | frame raw rest h4 hn ih =>
    rw [List.append_assoc, extract_cons raw _ h4 hn, extract_cons raw _ h4 hn]
    cases Block.decode raw with
    | error e => rfl
    | ok blk =>
      simp only
      rw [ih]
      cases (extract rest).aborted <;> rfl

/-- `extract_resume` with an idle bound `k` on `a.length`, under the name DESIGN.md cites; the statement to use is `extract_resume` -/
theorem extract_append : ∀ (k : Nat) (a b : Bytes), a.length ≤ k →
    extract (a ++ b) =
      if (extract a).aborted then ⟨(extract a).frames, (extract a).rest ++ b, true⟩
      else ⟨(extract a).frames ++ (extract ((extract a).rest ++ b)).frames, (extract ((extract a).rest ++ b)).rest,
            (extract ((extract a).rest ++ b)).aborted⟩ :=
  fun _ a b _ => extract_resume a b

theorem extract_rest (a : Bytes) (hab : (extract a).aborted = false) :
    extract (extract a).rest = ⟨[], (extract a).rest, false⟩ := by
  induction a using extract_induction with
  | settled a h => rw [h]; exact h
  | frame raw rest h4 hn ih =>
    rw [extract_cons raw _ h4 hn] at hab ⊢
    cases hd : Block.decode raw with
    | error e => rw [hd] at hab; cases hab
    | ok blk => rw [hd] at hab; exact ih hab

theorem not_aborted_prefix (a b : Bytes) (h : (extract (a ++ b)).aborted = false) : (extract a).aborted = false := by
  rw [extract_resume] at h
  cases hab : (extract a).aborted
  · rfl
  · rw [hab, if_pos rfl] at h; exact h

theorem frames_prefix (a b : Bytes) : (extract a).frames <+: (extract (a ++ b)).frames := by
  rw [extract_resume]
  cases (extract a).aborted
  · exact List.prefix_append _ _
  · exact List.prefix_refl _

theorem foldl_feed : ∀ (chunks : List Bytes) (s : Rx), extract s.buf = ⟨[], s.buf, false⟩ → (extract (s.buf ++ chunks.flatten)).aborted = false →
    chunks.foldl feed s = ⟨(extract (s.buf ++ chunks.flatten)).rest, s.delivered ++ (extract (s.buf ++ chunks.flatten)).frames, s.aborts⟩
  | [], s, hs, _ => by
    rw [List.flatten_nil, List.append_nil, hs, List.append_nil]; rfl
  | c :: cs, s, _, h => by
    rw [List.flatten_cons, ← List.append_assoc] at h ⊢
    have h1 := not_aborted_prefix _ _ h
    have eapp := extract_resume (s.buf ++ c) cs.flatten
    rw [h1, if_neg Bool.false_ne_true] at eapp
    rw [eapp] at h ⊢
    have hfeed : feed s c = ⟨(extract (s.buf ++ c)).rest, s.delivered ++ (extract (s.buf ++ c)).frames, s.aborts⟩ := by
      rw [feed, h1]; rfl
    rw [List.foldl_cons, foldl_feed cs (feed s c) (extract_rest _ h1) h, hfeed, List.append_assoc]

theorem decode_eq (raw : Bytes) : Block.decode raw =
    (if raw.length < 4 then .error .structError else
     if ofBe (raw.take 4) < 10 then .error .structError else
     if raw.length ≠ 4 + 10 + (ofBe (raw.take 4) - 10) then .error .structError else
     match HsmsHeader.decode ((raw.drop 4).take 10) with
     | .error e => .error e
     | .ok h => .ok ⟨h, (raw.drop (4 + 10)).take (ofBe (raw.take 4) - 10)⟩) := rfl

theorem decode_append (lf hb data : Bytes) (h4 : lf.length = 4) (hl : hb.length = 10) (hn : ofBe lf = 10 + data.length) :
    Block.decode (lf ++ (hb ++ data)) =
      match HsmsHeader.decode hb with
      | .error e => .error e
      | .ok h => .ok ⟨h, data⟩ := by
  rw [decode_eq, List.take_left' h4, ← List.drop_drop, List.drop_left' h4, List.take_left' hl, List.drop_left' hl, hn,
    Nat.add_sub_cancel_left, List.take_length, if_neg (by rw [List.length_append]; omega), if_neg (by omega),
    if_neg (by simp only [List.length_append, h4, hl]; omega)]

theorem decode_inv (raw : Bytes) (araw : AllBytes raw) (b : Block) (hd : Block.decode raw = .ok b) :
    ∃ hb, hb.length = 10 ∧ AllBytes hb ∧ HsmsHeader.decode hb = .ok b.header ∧ 10 + b.data.length < 2^32
      ∧ raw = be 4 (10 + b.data.length) ++ hb ++ b.data := by
  rw [decode_eq] at hd
  split at hd
  · cases hd
  split at hd
  · cases hd
  split at hd
  · cases hd
  -- the three guards leave `raw.length = 14 + (L - 10)` with `L = ofBe (raw.take 4) ≥ 10`: the `take` of the body is the whole tail, and
  -- `raw` is its first four bytes, the next ten and that tail
  have l4 : (raw.take 4).length = 4 := by rw [List.length_take]; omega
  have hlt := ofBe_lt _ (araw.take 4)
  have hbe := be_ofBe _ (araw.take 4)
  rw [l4] at hlt hbe
  have hall : (raw.drop (4 + 10)).take (ofBe (raw.take 4) - 10) = raw.drop (4 + 10) :=
    List.take_of_length_le (by rw [List.length_drop]; omega)
  have hsz : 10 + (raw.drop (4 + 10)).length = ofBe (raw.take 4) := by rw [List.length_drop]; omega
  rw [hall] at hd
  cases hh : HsmsHeader.decode ((raw.drop 4).take 10) with
  | error e => rw [hh] at hd; cases hd
  | ok h =>
    rw [hh] at hd
    obtain rfl := Except.ok.inj hd
    refine ⟨_, by rw [List.length_take, List.length_drop]; omega, (araw.drop 4).take 10, hh, ?_, ?_⟩
    · show 10 + (raw.drop (4 + 10)).length < 2 ^ 32
      rw [hsz]; exact hlt
    · show raw = be 4 (10 + (raw.drop (4 + 10)).length) ++ _ ++ raw.drop (4 + 10)
      rw [hsz, hbe, ← List.drop_drop, List.append_assoc, List.take_append_drop, List.take_append_drop]

theorem encode_of_header (b : Block) (hb : Bytes) (he : b.header.encode = .ok hb) (hl : hb.length = 10) (hs : 10 + b.data.length < 2^32) :
    b.encode = .ok (be 4 (10 + b.data.length) ++ hb ++ b.data) := by
  have hs' : 10 + b.data.length < 256 ^ 4 := hs
  simp only [Block.encode, he, BlockFmt.hsmsLengthWidth, HsmsHeader.length, hs', if_true]
  rw [hl, List.take_of_length_le (Nat.le_of_eq hl), Nat.sub_self, List.replicate_zero, List.append_nil]

/-- `size`: the 4-byte length field holds 10 + the length of the body (`struct.pack(">L", …)` raises from 2³² on) -/
structure Valid (b : Block) : Prop where
  header : InRange b.header
  size : 10 + b.data.length < 2^32

def frameOf (b : Block) : Bytes := Spec.E37.frame (toSpec b.header) b.data

def wire (bs : List Block) : Bytes := (bs.map frameOf).flatten

theorem encode_exact (b : Block) (hv : Valid b) : b.encode = .ok (frameOf b) :=
  encode_of_header b _ (encode_layout b.header hv.header) (Spec.E37.headerBytes_length _) hv.size

theorem decode_frame (b : Block) (hv : Valid b) : Block.decode (frameOf b) = .ok b := by
  have h4 : (be 4 (10 + b.data.length)).length = 4 := be_length _ _
  have hl : (Spec.E37.headerBytes (toSpec b.header)).length = 10 := Spec.E37.headerBytes_length _
  have hn : ofBe (be 4 (10 + b.data.length)) = 10 + b.data.length := ofBe_be_of_lt _ _ hv.size
  rw [frameOf, Spec.E37.frame, List.append_assoc, decode_append _ _ _ h4 hl hn, decode_layout b.header hv.header]

theorem extract_frame (b : Block) (hv : Valid b) (rest : Bytes) :
    extract (frameOf b ++ rest) = ⟨b :: (extract rest).frames, (extract rest).rest, (extract rest).aborted⟩ := by
  have hlen : (frameOf b).length = 14 + b.data.length := Spec.E37.frame_length _ _
  have hfield : ofBe ((frameOf b).take 4) = 10 + b.data.length := by
    rw [frameOf, Spec.E37.frame_take4, ofBe_be_of_lt _ _ hv.size]
  have h4 : 4 ≤ (frameOf b).length := by omega
  have hn : ofBe ((frameOf b).take 4) + 4 = (frameOf b).length := by omega
  rw [extract_cons (frameOf b) rest h4 hn, decode_frame b hv]

theorem extract_wire : ∀ (bs : List Block), (∀ b ∈ bs, Valid b) → ∀ (tail : Bytes),
    extract (wire bs ++ tail) = ⟨bs ++ (extract tail).frames, (extract tail).rest, (extract tail).aborted⟩
  | [], _, tail => rfl
  | b :: bs, hv, tail => by
    have : wire (b :: bs) ++ tail = frameOf b ++ (wire bs ++ tail) := List.append_assoc _ _ _
    rw [this, extract_frame b (hv b List.mem_cons_self), extract_wire bs (fun x hx => hv x (List.mem_cons_of_mem _ hx)) tail]
    rfl

theorem extract_wire_nil (bs : List Block) (hv : ∀ b ∈ bs, Valid b) : extract (wire bs) = ⟨bs, [], false⟩ := by
  have := extract_wire bs hv []
  rwa [List.append_nil, extract_nil, List.append_nil] at this

theorem foldl_feed_prefix (bs : List Block) (hv : ∀ b ∈ bs, Valid b) (p q : Bytes) (hpq : p ++ q = wire bs)
    (chunks : List Bytes) (hc : chunks.flatten = p) :
    chunks.foldl feed Rx.init = ⟨(extract p).rest, (extract p).frames, 0⟩ ∧ (extract p).frames <+: bs := by
  have hw := extract_wire_nil bs hv
  have hna : (extract p).aborted = false := not_aborted_prefix p q (by rw [hpq, hw])
  have hp := frames_prefix p q
  rw [hpq, hw] at hp
  refine ⟨?_, hp⟩
  subst hc
  exact foldl_feed chunks Rx.init extract_nil hna

open OnData in
/-- what `noLostWakeup` establishes: the enumerated set holds the initial state and is closed under every step, so it holds every state
of every run, whatever the interleaving — and in none of its states is a wake-up lost -/
theorem noLostWakeup_sound {producer loop : List String} (h : noLostWakeup producer loop = true) {ls : List Lbl} {s : St}
    (hr : run producer loop St.init ls = some s) : lost loop s = false := by
  simp only [noLostWakeup, Bool.and_eq_true, List.all_eq_true, List.contains_iff_mem] at h
  obtain ⟨⟨⟨⟨_, hinit⟩, hclosed⟩, hlost⟩, _⟩ := h
  suffices ∀ ls s₀, s₀ ∈ reach producer loop → run producer loop s₀ ls = some s → s ∈ reach producer loop by
    simpa using hlost s (this ls _ hinit hr)
  intro ls
  induction ls with
  | nil => intro s₀ hs hr; cases hr; exact hs
  | cons l ls ih =>
    intro s₀ hs hr
    have hc := hclosed s₀ hs l (by cases l <;> decide)
    rw [run] at hr
    cases hst : step producer loop s₀ l with
    | none => rw [hst] at hr; cases hr
    | some s₁ => rw [hst] at hr hc; exact ih s₁ (List.contains_iff_mem.mp hc) hr

open OnData in
/-- so a run into a lost wake-up refutes the check (the hypothesis has the shape of the witnesses in `C04.reordered_handover_loses_wakeup`) -/
theorem noLostWakeup_refuted {producer loop : List String} {ls : List Lbl}
    (h : ∃ s, run producer loop St.init ls = some s ∧ lost loop s = true) : noLostWakeup producer loop = false :=
  let ⟨_, hr, hl⟩ := h
  Bool.eq_false_iff.mpr fun hc => Bool.false_ne_true ((noLostWakeup_sound hc hr).symm.trans hl)

end SecsModel.Proofs.HsmsRx
