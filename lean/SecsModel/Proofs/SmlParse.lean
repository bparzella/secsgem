import SecsModel.Proofs.SmlItem
import SecsModel.Proofs.SmlTotal
/-!
# Proofs.SmlParse — the parser reads `toksOf d fmtF v` back to `v`
-/
namespace SecsModel.Proofs.Sml
open SecsModel.Model.Sml

theorem readVals_close {β : Type} (one : Text → Except PErr (List β)) (rest : List Text) :
    readVals one ([62] :: rest) = .ok ([], rest) := by
  simp [readVals]

theorem readVals_cons {β : Type} {one : Text → Except PErr (List β)} {t : Text} {bs : List β} (ht : t ≠ [62])
    (h : one t = .ok bs) (ts : List Text) : readVals one (t :: ts) = mapOk (bs ++ ·) (readVals one ts) := by
  simp [readVals, ht, h]

theorem readVals_map {α β : Type} (one : Text → Except PErr (List β)) (fmt : α → Text) (val : α → β) (rest : List Text) :
    ∀ (xs : List α), (∀ x ∈ xs, fmt x ≠ [62] ∧ one (fmt x) = .ok [val x]) →
      readVals one (xs.map fmt ++ [62] :: rest) = .ok (xs.map val, rest)
  | [], _ => readVals_close one rest
  | x :: xs, h => by
    have ⟨h1, h2⟩ := h x (List.mem_cons_self ..)
    rw [List.map_cons, List.cons_append, readVals_cons h1 h2,
      readVals_map one fmt val rest xs fun y hy => h y (List.mem_cons_of_mem _ hy)]
    rfl

theorem numTok_ok {base0 : Bool} {lo hi v : Int} {t : Text} (h : pyInt base0 t = some v) (hlo : lo ≤ v) (hhi : v ≤ hi) :
    numTok base0 lo hi t = .ok [v] := by
  simp [numTok, h, hlo, hhi]

theorem stripQ_quoted (r : Text) (h : ∀ c ∈ r, c ≠ 34) : stripQ (34 :: (r ++ [34])) = r :=
  strip_append (p := (· == 34)) (a := [34]) (b := [34]) (by simp) (by simp) (by simpa using h)

theorem encodeAll_append (enc : Nat → Option Nat) (a : Text) (c b : Nat) (as : List Nat)
    (h1 : encodeAll enc a = some as) (h2 : enc c = some b) : encodeAll enc (a ++ [c]) = some (as ++ [b]) := by
  induction a generalizing as with
  | nil => cases h1; simp [encodeAll, h2]
  | cons x a ih =>
    simp only [encodeAll] at h1
    split at h1
    · rename_i hx ha; cases h1; simp [encodeAll, hx, ih _ ha]
    · cases h1

theorem strTok_quoted (enc : Nat → Option Nat) {r : Text} {rb : List Nat} (hr : ∀ c ∈ r, c ≠ 34)
    (he : encodeAll enc r = some rb) : strTok enc (34 :: (r ++ [34])) = .ok rb := by
  simp [strTok, stripQ_quoted r hr, he]

theorem strTok_hex (enc : Nat → Option Nat) {b : Nat} (hb : b < 256) : strTok enc (hexLit b) = .ok [b] := by
  have : (0 : Int) ≤ (b : Int) ∧ (b : Int) ≤ 255 := by omega
  simp [strTok, hexLit_head, pyInt_hexLit, this]

/-- the string reader over the tokens of a string body; the two conjuncts are the two states of `strToks` (as in `tok_strLoop`) -/
theorem readVals_strToks (enc : Nat → Option Nat) (pr : Nat → Bool) (dec : Nat → Nat) (code : Nat → Text) (rest : List Text) :
    ∀ (bs : List Nat),
      (∀ b ∈ bs, b < 256 ∧ code b = hexLit b ∧ (pr (dec b) = true → dec b ≠ 34 ∧ enc (dec b) = some b)) →
      readVals (strTok enc) (strToks pr dec code bs none ++ [62] :: rest) = .ok (bs, rest)
      ∧ ∀ (r : Text) (rb : List Nat), (∀ c ∈ r, c ≠ 34) → encodeAll enc r = some rb →
          readVals (strTok enc) (strToks pr dec code bs (some r) ++ [62] :: rest) = .ok (rb ++ bs, rest)
  | [], _ => by
    refine ⟨readVals_close _ rest, fun r rb hr he => ?_⟩
    simp only [strToks, List.cons_append, List.nil_append]
    rw [readVals_cons (by simp) (strTok_quoted enc hr he), readVals_close, mapOk, List.append_nil]
  | b :: bs, h => by
    have ⟨hb, hcode, hp⟩ := h b (List.mem_cons_self ..)
    have ⟨ihU, ihP⟩ := readVals_strToks enc pr dec code rest bs fun y hy => h y (List.mem_cons_of_mem _ hy)
    have hhex : readVals (strTok enc) (hexLit b :: (strToks pr dec code bs none ++ [62] :: rest)) = .ok (b :: bs, rest) := by
      rw [readVals_cons (plain_ne_gt (hexLit_word b).2) (strTok_hex enc hb), ihU]; rfl
    by_cases hpr : pr (dec b) = true
    · have ⟨hq, he⟩ := hp hpr
      refine ⟨?_, fun r rb hr hre => ?_⟩
      · rw [strToks, if_pos hpr]
        exact ihP [dec b] [b] (by simpa using hq) (by simp [encodeAll, he])
      · have := ihP (r ++ [dec b]) (rb ++ [b]) (by simpa [or_imp, forall_and] using ⟨hr, hq⟩)
          (encodeAll_append enc r (dec b) b rb hre he)
        rw [List.append_assoc] at this
        rwa [strToks, if_pos hpr, Option.getD_some]
    · refine ⟨?_, fun r rb hr hre => ?_⟩
      · rw [strToks, if_neg hpr, hcode]; exact hhex
      · rw [strToks, if_neg hpr, hcode]
        simp only [List.cons_append, List.nil_append]
        rw [readVals_cons (by simp) (strTok_quoted enc hr hre), hhex]
        rfl

theorem typeOf_int (t : IntTy) : typeOf t.name = some (.int t) := by cases t <;> rfl
theorem typeOf_flt (t : FltTy) : typeOf t.name = some (.flt t) := by cases t <;> rfl
theorem typeOf_L : typeOf [76] = some .l := rfl
theorem typeOf_B : typeOf tyB = some .b := rfl
theorem typeOf_BOOLEAN : typeOf tyBOOLEAN = some .boolean := rfl
theorem typeOf_A : typeOf tyA = some .a := rfl
theorem typeOf_J : typeOf tyJ = some .j := rfl

theorem jisCode_safe (d : Defects) (bs : List Nat) (hs : safeItem d (Item.strJ bs) = true) :
    ∀ b ∈ bs, jisCode d b = hexLit b := by
  intro b hb
  simp only [safeItem, Bool.and_eq_true, Bool.or_eq_true, Bool.not_eq_true', List.all_eq_true, beq_iff_eq] at hs
  unfold jisCode
  rcases hs.2 with hj | hall
  · simp [hj]
  · rw [hall b hb]; simp

theorem jisEncode_jisDecode (b : Nat) (hb : b < 256) : jisEncode (jisDecode b) = some b := by
  unfold jisDecode
  split
  · subst b; rfl
  · split
    · subst b; rfl
    · split
      · unfold jisEncode
        have h1 : b + 0xFEC0 ≠ 0xA5 := by omega
        have h2 : b + 0xFEC0 ≠ 0x203E := by omega
        have h3 : 0xFF61 ≤ b + 0xFEC0 ∧ b + 0xFEC0 ≤ 0xFF9F := by omega
        simp only [h1, h2, h3, if_false, and_self, if_true, Nat.add_sub_cancel]
      · rename_i h5 h7 h
        unfold jisEncode
        have h1 : b ≠ 0xA5 := by omega
        have h2 : b ≠ 0x203E := by omega
        have h3 : ¬ (0xFF61 ≤ b ∧ b ≤ 0xFF9F) := by omega
        simp only [h1, h2, h3, if_false, hb, h5, h7, h, ne_eq, not_false_eq_true, and_self, if_true]

theorem toksOf_head (d : Defects) (fmtF : Nat → Text) (v : Item) : ∃ tl, toksOf d fmtF v = [60] :: tl := by
  cases v with
  | list xs => unfold toksOf; split <;> exact ⟨_, rfl⟩
  | _ => exact ⟨_, by unfold toksOf; rfl⟩

theorem toksOf_length (d : Defects) (fmtF : Nat → Text) (v : Item) : 3 ≤ (toksOf d fmtF v).length := by
  cases v with
  | list xs => unfold toksOf; split <;> simp <;> omega
  | _ => unfold toksOf; simp

theorem readItem_list (parseF : Text → Option Nat) (f : Nat) (ts : List Text) :
    readItem parseF (f + 1) ([60] :: [76] :: ts) = readItems (readLoop parseF f) ts := by
  simp [readItem, typeOf_L]

theorem readItem_leaf (parseF : Text → Option Nat) (f : Nat) {ty : Text} {k : Ty} {body rest : List Text} {v : Item}
    (hty : typeOf ty = some k) (hk : k ≠ .l) (h : readLeaf parseF k (body ++ [62] :: rest) = .ok (v, rest)) :
    readItem parseF (f + 1) ([60] :: ty :: (body ++ [[62]]) ++ rest) = .ok (v, rest) := by
  rw [← h]
  cases k with
  | l => exact absurd rfl hk
  | _ => simp [readItem, hty]

theorem lengthCheck_ok (n : Nat) : lengthCheck (some (decNat n)) n = .ok () := by
  simp [lengthCheck, pyInt_decNat]

theorem readItems_len (loop : List Text → Except PErr (List Item × List Text)) {ts r : List Text} {xs : List Item}
    (h : loop ts = .ok (xs, r)) : readItems loop ([91] :: decNat xs.length :: [93] :: ts) = .ok (.list xs, r) := by
  simp [readItems, h, lengthCheck_ok]

theorem readLoop_close (parseF : Text → Option Nat) (f : Nat) (r : List Text) :
    readLoop parseF (f + 1) ([62] :: r) = .ok ([], r) := by
  simp [readLoop, isCloser]

theorem readLoop_step (parseF : Text → Option Nat) (f : Nat) (tl r' r'' : List Text) (x : Item) (xs : List Item)
    (h1 : readItem parseF f ([60] :: tl) = .ok (x, r')) (h2 : readLoop parseF f r' = .ok (xs, r'')) :
    readLoop parseF (f + 1) ([60] :: tl) = .ok (x :: xs, r'') := by
  have : isCloser [60] = false := by decide
  simp [readLoop, this, h1, h2]

theorem map_boolInt_beq : ∀ l : List Bool, (l.map (fun b : Bool => if b then (1 : Int) else 0)).map (· == 1) = l
  | [] => rfl
  | b :: l => by cases b <;> simp [map_boolInt_beq l]

theorem parse_toksOf (d : Defects) (fmtF : Nat → Text) (parseF : Text → Option Nat) (hF : FloatLaws fmtF parseF) : ∀ f : Nat,
    (∀ (v : Item), v.valid = true → safeItem d v = true → ∀ rest : List Text, (toksOf d fmtF v).length ≤ f →
      readItem parseF f (toksOf d fmtF v ++ rest) = .ok (v, rest))
    ∧ (∀ (xs : List Item), validList xs = true → safeList d xs = true → ∀ rest : List Text, (toksOfList d fmtF xs).length + 1 ≤ f →
      readLoop parseF f (toksOfList d fmtF xs ++ [62] :: rest) = .ok (xs, rest))
  | 0 => ⟨fun v _ _ _ hf => by have := toksOf_length d fmtF v; omega, fun _ _ _ _ hf => by omega⟩
  | f + 1 => by
    have ih := parse_toksOf d fmtF parseF hF f
    constructor
    · intro v hv hs rest hf
      cases v with
      | list xs =>
        cases xs with
        | nil =>
          -- `< L >` needs a second unit of fuel: the item loop has to run once to see the `>`
          obtain ⟨f', rfl⟩ : ∃ f', f = f' + 1 := ⟨f - 1, by simp [toksOf] at hf; omega⟩
          exact (readItem_list parseF _ _).trans (by simp [readItems, readLoop_close, mapOk])
        | cons y ys =>
          simp only [Item.valid] at hv
          simp only [safeItem] at hs
          have hlen : (toksOfList d fmtF (y :: ys)).length + 1 ≤ f := by
            simp only [toksOf, List.isEmpty_cons, Bool.false_eq_true, if_false, List.length_cons, List.length_append, List.length_nil] at hf
            omega
          simp only [toksOf, List.isEmpty_cons, Bool.false_eq_true, if_false, List.cons_append, List.append_assoc, List.nil_append]
          rw [readItem_list, readItems_len _ (ih.2 (y :: ys) hv hs rest hlen)]
      | bin bs =>
        simp only [Item.valid, List.all_eq_true, decide_eq_true_eq] at hv
        have hel : ∀ b ∈ bs, hexLit b ≠ [62] ∧ numTok true 0 255 (hexLit b) = .ok [(b : Int)] := fun b hb =>
          ⟨plain_ne_gt (hexLit_word b).2, numTok_ok (pyInt_hexLit b) (by omega) (by have := hv b hb; omega)⟩
        refine readItem_leaf parseF f typeOf_B (by decide) ?_
        rw [readLeaf, readNums_eq, readVals_map _ hexLit _ rest bs hel, mapOk, List.map_map]
        simp [Function.comp_def]
      | bool vs =>
        have hel : ∀ b ∈ vs, boolText b ≠ [62] ∧ numTok true 0 1 (boolText b) = .ok [if b then (1 : Int) else 0] := fun b _ => by
          cases b <;> exact ⟨by decide, numTok_ok (by decide) (by decide) (by decide)⟩
        refine readItem_leaf parseF f typeOf_BOOLEAN (by decide) ?_
        rw [readLeaf, readNums_eq, readVals_map _ boolText _ rest vs hel, mapOk, map_boolInt_beq]
      | strA bs =>
        simp only [Item.valid, List.all_eq_true, decide_eq_true_eq] at hv
        have hel : ∀ b ∈ bs, b < 256 ∧ hexLit b = hexLit b ∧
            (isPrintable d (id b) = true → id b ≠ 34 ∧ latin1Encode (id b) = some b) := fun b hb =>
          ⟨hv b hb, rfl, fun hp => ⟨quote_ok (dec := id) (fun _ h => h) hs b hb hp, by simp [latin1Encode, hv b hb]⟩⟩
        refine readItem_leaf parseF f typeOf_A (by decide) ?_
        rw [readLeaf, readStr_eq, (readVals_strToks latin1Encode (isPrintable d) id hexLit rest bs hel).1, mapOk]
      | strJ bs =>
        simp only [Item.valid, List.all_eq_true, decide_eq_true_eq] at hv
        have hquote := quote_ok (fun _ => jisDecode_eq_quote) (Bool.and_eq_true_iff.mp hs).1
        have hel : ∀ b ∈ bs, b < 256 ∧ jisCode d b = hexLit b ∧
            (isPrintable d (jisDecode b) = true → jisDecode b ≠ 34 ∧ jisEncode (jisDecode b) = some b) := fun b hb =>
          ⟨hv b hb, jisCode_safe d bs hs b hb, fun hp => ⟨hquote b hb hp, jisEncode_jisDecode b (hv b hb)⟩⟩
        refine readItem_leaf parseF f typeOf_J (by decide) ?_
        rw [readLeaf, readStr_eq, (readVals_strToks jisEncode (isPrintable d) jisDecode (jisCode d) rest bs hel).1, mapOk]
      | int t vs =>
        simp only [Item.valid, List.all_eq_true, Bool.and_eq_true, decide_eq_true_eq] at hv
        have hel : ∀ v ∈ vs, decInt v ≠ [62] ∧ numTok false t.min t.max (decInt v) = .ok [id v] := fun v hvv =>
          ⟨plain_ne_gt (decInt_word v).2, numTok_ok (pyInt_decInt v) (hv v hvv).1 (hv v hvv).2⟩
        refine readItem_leaf parseF f (typeOf_int t) nofun ?_
        rw [readLeaf, readNums_eq, readVals_map _ decInt id rest vs hel, mapOk, List.map_id]
      | flt t vs =>
        simp only [Item.valid, List.all_eq_true, Bool.and_eq_true, decide_eq_true_eq] at hv
        have hel : ∀ b ∈ vs, fmtF b ≠ [62] ∧ fltTok parseF t (fmtF b) = .ok [id b] := fun b hb =>
          have ⟨hlt, hbnd⟩ := hv b hb
          have hfin := fltInBounds_finite hbnd
          ⟨plain_ne_gt (hF.plain b hlt hfin).2, by simp [fltTok, hF.back b hlt hfin, hbnd]⟩
        refine readItem_leaf parseF f (typeOf_flt t) nofun ?_
        rw [readLeaf, readFlts_eq, readVals_map _ fmtF id rest vs hel, mapOk, List.map_id]
    · intro xs hv hs rest hf
      cases xs with
      | nil => exact readLoop_close parseF f rest
      | cons x xs =>
        simp only [validList, Bool.and_eq_true] at hv
        simp only [safeList, Bool.and_eq_true] at hs
        simp only [toksOfList, List.length_append] at hf
        have h3 := toksOf_length d fmtF x
        obtain ⟨tl, htl⟩ := toksOf_head d fmtF x
        have hitem := ih.1 x hv.1 hs.1 (toksOfList d fmtF xs ++ [62] :: rest) (by omega)
        rw [toksOfList, List.append_assoc]
        rw [htl] at hitem ⊢
        exact readLoop_step parseF f _ _ _ x xs hitem (ih.2 xs hv.2 hs.2 rest (by omega))

theorem parse_item (d : Defects) (fmtF : Nat → Text) (parseF : Text → Option Nat) (hF : FloatLaws fmtF parseF) :
    ∀ (v : Item), v.valid = true → safeItem d v = true → ∀ (f : Nat) (rest : List Text), (toksOf d fmtF v).length ≤ f →
      readItem parseF f (toksOf d fmtF v ++ rest) = .ok (v, rest) :=
  fun v hv hs f rest hf => (parse_toksOf d fmtF parseF hF f).1 v hv hs rest hf

theorem parse_list (d : Defects) (fmtF : Nat → Text) (parseF : Text → Option Nat) (hF : FloatLaws fmtF parseF) :
    ∀ (xs : List Item), validList xs = true → safeList d xs = true → ∀ (f : Nat) (rest : List Text),
      (toksOfList d fmtF xs).length + 1 ≤ f →
      readLoop parseF f (toksOfList d fmtF xs ++ [62] :: rest) = .ok (xs, rest) :=
  fun xs hv hs f rest hf => (parse_toksOf d fmtF parseF hF f).2 xs hv hs rest hf

end SecsModel.Proofs.Sml
