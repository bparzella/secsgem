import SecsModel.Model.SM
import SecsModel.Spec.SM
/-!
# Proofs.SM — the engine model

Ancestor chains of a forest and the walks `leave`/`enter` take along them (`walk_common`); the engine's equations for arbitrary
handlers (failures sequenced by `Out.bind`, statements in the form `Ends`, `leave` and `enter` through their common shape `climb`);
then handlers that request nothing: `perform_quiet`, and the events such a request fires.
-/
namespace SecsModel.Proofs.SM
open SecsModel.Model.SM SecsModel.Spec.SM

variable {m : MDef}

theorem parent_zero (wf : WF m) : m.parent 0 = none := by
  cases h : m.parent 0 with
  | none => rfl
  | some q => exact absurd (wf 0 q h) (Nat.not_lt_zero q)

theorem chainF_fuel (wf : WF m) : ∀ f g p, p ≤ f → p ≤ g → chainF m f p = chainF m g p := by
  intro f
  induction f with
  | zero =>
    intro g p hp _
    obtain rfl : p = 0 := by omega
    cases g <;> simp [chainF, parent_zero wf]
  | succ f ih =>
    intro g p hp hg
    cases g with
    | zero =>
      obtain rfl : p = 0 := by omega
      simp [chainF, parent_zero wf]
    | succ g =>
      simp only [chainF]
      cases hq : m.parent p with
      | none => rfl
      | some q =>
        have := wf p q hq
        simp only
        rw [ih g q (by omega) (by omega)]

theorem chain_none {s : Nat} (h : m.parent s = none) : chain m s = [s] := by
  cases s <;> simp [chain, chainF, h]

theorem chain_some (wf : WF m) {s p : Nat} (h : m.parent s = some p) : chain m s = s :: chain m p := by
  have hlt := wf s p h
  obtain ⟨k, rfl⟩ : ∃ k, s = k + 1 := ⟨s - 1, by omega⟩
  simp only [chain, chainF, h]
  rw [chainF_fuel wf k p p (by omega) (Nat.le_refl _)]

theorem forest_induction (wf : WF m) {motive : Nat → Prop} (root : ∀ s, m.parent s = none → motive s)
    (step : ∀ s p, m.parent s = some p → motive p → motive s) (s : Nat) : motive s := by
  induction s using Nat.strongRecOn with
  | ind s ih =>
    cases hp : m.parent s with
    | none => exact root s hp
    | some p => exact step s p hp (ih p (wf s p hp))

theorem mem_chain_le (wf : WF m) (s : Nat) : ∀ x, x ∈ chain m s → x ≤ s := by
  induction s using forest_induction wf with
  | root s hp => intro x hx; simp [chain_none hp] at hx; omega
  | step s p hp ih =>
    intro x hx
    have := wf s p hp
    rcases List.mem_cons.mp (chain_some wf hp ▸ hx) with h | h
    · omega
    · have := ih x h; omega

theorem self_mem_chain (s : Nat) : s ∈ chain m s := by
  cases s <;> simp only [chain, chainF]
  · simp
  · split <;> simp

theorem not_mem_chain_parent (wf : WF m) {s p : Nat} (h : m.parent s = some p) : s ∉ chain m p := fun hm =>
  Nat.lt_irrefl s (Nat.lt_of_le_of_lt (mem_chain_le wf p s hm) (wf s p h))

theorem chain_nodup (wf : WF m) (s : Nat) : (chain m s).Nodup := by
  induction s using forest_induction wf with
  | root s hp => simp [chain_none hp]
  | step s p hp ih => rw [chain_some wf hp]; exact List.nodup_cons.mpr ⟨not_mem_chain_parent wf hp, ih⟩

theorem depth_some (wf : WF m) {s p : Nat} (h : m.parent s = some p) : depth m s = depth m p + 1 := by
  simp [depth, chain_some wf h]

theorem depth_pos (s : Nat) : 0 < depth m s :=
  List.length_pos_of_mem (self_mem_chain s)

theorem mem_chain_depth (wf : WF m) (s : Nat) : ∀ x, x ∈ chain m s → x = s ∨ depth m x < depth m s := by
  induction s using forest_induction wf with
  | root s hp => intro x hx; left; simpa [chain_none hp] using hx
  | step s p hp ih =>
    intro x hx
    rcases List.mem_cons.mp (chain_some wf hp ▸ hx) with h | h
    · exact .inl h
    · right
      rw [depth_some wf hp]
      rcases ih x h with h' | h'
      · rw [h']; omega
      · omega

/-- `Walk m s other xs`: `State.leave`/`State.enter` called on `s` with argument `other` visits exactly `xs` (in this order) -/
inductive Walk (m : MDef) : Nat → Option Nat → List Nat → Prop
  | root {s other} : m.parent s = none → Walk m s other [s]
  | stop {s p other} : m.parent s = some p → goesUp m p other = false → Walk m s other [s]
  | up {s p other xs} : m.parent s = some p → goesUp m p other = true → Walk m p (other.bind m.parent) xs →
      Walk m s other (s :: xs)

theorem walk_none (wf : WF m) {s : Nat} {xs : List Nat} (hw : Walk m s none xs) : xs = chain m s := by
  generalize ho : none = other at hw
  induction hw with
  | root hp => rw [chain_none hp]
  | stop hp hg => subst ho; simp [goesUp] at hg
  | up hp _ _ ih => subst ho; rw [chain_some wf hp, ih rfl]

theorem walk_prefix (wf : WF m) {s : Nat} {other : Option Nat} {xs : List Nat} (hw : Walk m s other xs) : xs <+: chain m s := by
  induction hw with
  | root hp => rw [chain_none hp]; exact List.prefix_refl _
  | stop hp _ => exact ⟨_, (chain_some wf hp).symm⟩
  | up hp _ _ ih => rw [chain_some wf hp]; exact List.cons_prefix_cons.mpr ⟨rfl, ih⟩

theorem walk_nodup (wf : WF m) {s : Nat} {other : Option Nat} {xs : List Nat} (hw : Walk m s other xs) : xs.Nodup :=
  (chain_nodup wf s).sublist (walk_prefix wf hw).sublist

theorem walk_head {s : Nat} {other : Option Nat} {xs : List Nat} (hw : Walk m s other xs) : s ∈ xs := by
  cases hw <;> simp

/-- **The two walks of a transition cut the chains of source and destination at a common tail** `zs`: `[]` when either side reaches
a root (the other side then runs to its root too, `walk_none`), `chain m p` when both stop below the same parent `p`; the remaining
combinations contradict the lock-step test `goesUp`. -/
theorem walk_common (wf : WF m) {s d : Nat} {xs ys : List Nat} (hl : Walk m s (some d) xs) (he : Walk m d (some s) ys) :
    ∃ zs, chain m s = xs ++ zs ∧ chain m d = ys ++ zs := by
  generalize ho : some d = o at hl
  induction hl generalizing d ys with
  | root hp =>
    subst ho
    refine ⟨[], by simp [chain_none hp], ?_⟩
    cases he with
    | root hq => simp [chain_none hq]
    | stop hq hg => simp [goesUp, hp] at hg
    | up hq hg he' =>
      simp only [Option.bind_some, hp] at he'
      simp [chain_some wf hq, walk_none wf he']
  | stop hp hg =>
    subst ho
    simp only [goesUp, bne_eq_false_iff_eq] at hg
    refine ⟨_, chain_some wf hp, ?_⟩
    cases he with
    | root hq => rw [hq] at hg; cases hg
    | stop hq _ => exact chain_some wf (hq ▸ hg)
    | up hq hg' _ => rw [hq] at hg; cases hg; simp [goesUp, hp] at hg'
  | up hp hg hl' ih =>
    subst ho
    cases he with
    | root hq =>
      simp only [Option.bind_some, hq] at hl'
      exact ⟨[], by simp [chain_some wf hp, walk_none wf hl'], by simp [chain_none hq]⟩
    | stop hq hg' =>
      simp only [goesUp, bne_eq_false_iff_eq] at hg'
      simp [goesUp, hq, hp.symm.trans hg'] at hg
    | up hq _ he' =>
      simp only [Option.bind_some, hq] at ih
      simp only [Option.bind_some, hp] at he'
      obtain ⟨zs, h1, h2⟩ := ih he' rfl
      exact ⟨zs, by rw [chain_some wf hp, h1]; rfl, by rw [chain_some wf hq, h2]; rfl⟩

/-- The set identity: leaving from `s` towards `d` and then entering `d` coming from `s`:
(ancestors-or-self of `s`, minus what was left) plus what was entered = ancestors-or-self of `d`.  Any forest. -/
theorem walk_sets {m : MDef} (wf : WF m) : ∀ s d xs ys, Walk m s (some d) xs → Walk m d (some s) ys →
    ∀ x, ((x ∈ chain m s ∧ x ∉ xs) ∨ x ∈ ys) ↔ x ∈ chain m d := by
  intro s d xs ys hl he x
  obtain ⟨zs, h1, h2⟩ := walk_common wf hl he
  have hnd := chain_nodup wf s
  rw [h1, List.nodup_append] at hnd
  rw [h1, h2, List.mem_append, List.mem_append]
  constructor
  · rintro (⟨h | h, hx⟩ | h)
    · exact absurd h hx
    · exact .inr h
    · exact .inl h
  · rintro (h | h)
    · exact .inr h
    · exact .inl ⟨.inr h, fun hx => hnd.2.2 x hx x h rfl⟩

/-- in the model's namespace for the dot notation `o.bind k` -/
def _root_.SecsModel.Model.SM.Out.bind (o : Out) (k : St → Out) : Out :=
  match o with
  | .ok s => k s
  | .fail e s => .fail e s

@[simp] theorem _root_.SecsModel.Model.SM.Out.bind_ok (s : St) (k : St → Out) : (Out.ok s).bind k = k s := rfl

def Ends (F : Fail → St → Prop) (Q : St → Prop) : Out → Prop
  | .ok s => Q s
  | .fail e s => F e s

theorem Ends.ok {F : Fail → St → Prop} {Q : St → Prop} {s : St} : Ends F Q (.ok s) ↔ Q s := Iff.rfl
theorem Ends.fail {F : Fail → St → Prop} {Q : St → Prop} {e : Fail} {s : St} : Ends F Q (.fail e s) ↔ F e s := Iff.rfl

theorem Ends.bind {F : Fail → St → Prop} {Q R : St → Prop} {o : Out} {k : St → Out} (ho : Ends F Q o)
    (hk : ∀ s, Q s → Ends F R (k s)) : Ends F R (o.bind k) := by
  cases o with
  | ok s => exact hk s ho
  | fail e s => exact ho

theorem Ends.mono {F : Fail → St → Prop} {Q R : St → Prop} {o : Out} (ho : Ends F Q o) (h : ∀ s, Q s → R s) : Ends F R o := by
  cases o with
  | ok s => exact h s ho
  | fail e s => exact ho

/-- When the only failure without a condition is running out of fuel, a call that did not run out of fuel ends in a state with `P`
— `P` being whatever every other failure and every completion guarantee — and, if it completed, with `Q` (the form of the C18 statements
with hypothesis `err ≠ some .fuel`). -/
theorem Ends.of_not_fuel {G : Fail → St → Prop} {Q P : St → Prop} {o : Out} (ho : Ends (fun e s => e = .fuel ∨ G e s) Q o)
    (hnf : o.err ≠ some .fuel) (hfail : ∀ e s, G e s → P s) (hok : ∀ s, Q s → P s) : P o.st ∧ ∀ s, o = .ok s → Q s := by
  cases o with
  | ok s => exact ⟨hok s ho, fun _ e => by cases e; exact ho⟩
  | fail e s => exact ⟨hfail e s (ho.resolve_left fun he => hnf (he ▸ rfl)), fun _ e => nomatch e⟩

section
variable {hh : Handlers} {f : Nat} {st : St} {name : String} {srcs : List Nat} {dst : Nat}

theorem perform_unknown (hl : lookup m name = none) : perform m hh (f+1) st name = .fail .unknown st := by
  simp only [perform, hl]

theorem perform_wrongSource (hl : lookup m name = some (srcs, dst)) (hc : srcs.contains st.cur = false) :
    perform m hh (f+1) st name = .fail .wrongSource st := by
  simp only [perform, hl, hc]; rfl

theorem perform_allowed (hl : lookup m name = some (srcs, dst)) (hc : srcs.contains st.cur = true) :
    perform m hh (f+1) st name =
      (leave m hh f st st.cur (some dst)).bind fun s1 =>
      (enter m hh f { s1 with cur := dst } dst (some s1.cur)).bind fun s2 => fire m hh f s2 (.called name) := by
  simp only [perform, hl, hc, ↓reduceIte]
  cases leave m hh f st st.cur (some dst) with
  | fail e s1 => rfl
  | ok s1 => simp only [Out.bind_ok]; cases enter m hh f { s1 with cur := dst } dst (some s1.cur) <;> rfl

end

theorem performAll_cons {hh : Handlers} (f : Nat) (st : St) (nm : String) (rest : List String) :
    performAll m hh (f+1) st (nm :: rest) = (perform m hh f st nm).bind fun s1 => performAll m hh f s1 rest := by
  simp only [performAll]; cases perform m hh f st nm <;> rfl

theorem runCallbacks_cons {hh : Handlers} (f : Nat) (st : St) (cb : Callback) (rest : List Callback) :
    runCallbacks m hh (f+1) st (cb :: rest) = (performAll m hh f st (cb st)).bind fun s1 => runCallbacks m hh f s1 rest := by
  simp only [runCallbacks]; cases performAll m hh f st (cb st) <;> rfl

/-- What `State.leave` and `State.enter` have in common: `visit` the state, then go on with the parent as long as the
counterpart's parent is another one (`goesUp`). -/
def climb (m : MDef) (visit : Nat → St → Nat → Out) : Nat → St → Nat → Option Nat → Out
  | 0, st, _, _ => .fail .fuel st
  | f+1, st, s, other =>
    (visit f st s).bind fun s1 =>
      match m.parent s with
      | none => .ok s1
      | some p => if goesUp m p other then climb m visit f s1 p (other.bind m.parent) else .ok s1

theorem leave_eq_climb {hh : Handlers} : ∀ f st s dest, leave m hh f st s dest =
    climb m (fun f st s => (fire m hh f st (.leave s)).bind fun s1 => .ok { s1 with active := setFlag s1.active s false })
      f st s dest := by
  intro f
  induction f with
  | zero => intros; rfl
  | succ f ih =>
    intro st s dest
    simp only [leave, climb, ih]
    cases fire m hh f st (.leave s) <;> rfl

theorem enter_eq_climb {hh : Handlers} : ∀ f st s src, enter m hh f st s src =
    climb m (fun f st s => fire m hh f { st with active := setFlag st.active s true } (.enter s)) f st s src := by
  intro f
  induction f with
  | zero => intros; rfl
  | succ f ih =>
    intro st s src
    simp only [enter, climb, ih]
    cases fire m hh f { st with active := setFlag st.active s true } (.enter s) <;> rfl

theorem enter_root {hh : Handlers} {s : Nat} (hp : m.parent s = none) (f : Nat) (st : St) (src : Option Nat) :
    enter m hh (f+1) st s src = fire m hh f { st with active := setFlag st.active s true } (.enter s) := by
  simp only [enter, hp]
  cases fire m hh f { st with active := setFlag st.active s true } (.enter s) <;> rfl

/-- per event, not `Quiet`, because a flat machine keeps its invariant with requests from every handler but the leave handlers
(`SMFlat.leave_flat`) -/
def QuietAt (h : Handlers) (ev : Ev) : Prop := ∀ cb, cb ∈ h ev → ∀ st, cb st = []

/-- handlers none of whose callbacks ever requests a transition (timers, sends, event forwarding …) -/
def Quiet (h : Handlers) : Prop := ∀ ev cb, cb ∈ h ev → ∀ st, cb st = []

theorem quiet_noHandlers : Quiet noHandlers := by
  intro ev cb hcb; simp [noHandlers] at hcb

theorem runCallbacks_quiet {hh : Handlers} : ∀ (cbs : List Callback), (∀ cb, cb ∈ cbs → ∀ st, cb st = []) →
    ∀ f st, runCallbacks m hh f st cbs = if cbs.length < f then .ok st else .fail .fuel st := by
  intro cbs
  induction cbs with
  | nil => intro _ f st; cases f <;> simp [runCallbacks]
  | cons cb rest ih =>
    intro hq f st
    match f with
    | 0 => simp [runCallbacks]
    | 1 => simp [runCallbacks, performAll]
    | f+2 =>
      have : performAll m hh (f+1) st [] = .ok st := rfl
      simp only [runCallbacks, hq cb (by simp) st, this, ih (fun c hc => hq c (by simp [hc])), List.length_cons]
      simp

theorem fire_quiet {hh : Handlers} {ev : Ev} (hq : QuietAt hh ev) (f : Nat) (st : St) :
    fire m hh (f+1) st ev =
      if (hh ev).length < f then .ok { st with log := st.log ++ [ev] } else .fail .fuel { st with log := st.log ++ [ev] } := by
  simp only [fire, runCallbacks_quiet (hh ev) hq]

def setAll (a : Nat → Bool) (xs : List Nat) (b : Bool) : Nat → Bool := xs.foldl (fun a s => setFlag a s b) a

theorem setAll_apply (b : Bool) (x : Nat) : ∀ (xs : List Nat) (a : Nat → Bool), setAll a xs b x = if x ∈ xs then b else a x := by
  intro xs
  induction xs with
  | nil => intro a; rfl
  | cons s xs ih =>
    intro a
    simp only [setAll, List.foldl_cons] at ih ⊢
    rw [ih]
    by_cases hx : x = s <;> by_cases hm : x ∈ xs <;> simp [setFlag, hx, hm]

def marked (ev : Nat → Ev) (b : Bool) (xs : List Nat) (st : St) : St := ⟨st.cur, setAll st.active xs b, st.log ++ xs.map ev⟩

theorem marked_cons (ev : Nat → Ev) (b : Bool) (s : Nat) (xs : List Nat) (st : St) :
    marked ev b xs (marked ev b [s] st) = marked ev b (s :: xs) st := by
  simp [marked, setAll]

/-- `F` is any failure condition that admits running out of fuel: with quiet handlers nothing else goes wrong -/
theorem fire_quiet_ends {F : Fail → St → Prop} (hF : ∀ s, F .fuel s) {hh : Handlers} {ev : Ev} (hq : QuietAt hh ev) (f : Nat)
    (st : St) :
    Ends F (· = { st with log := st.log ++ [ev] }) (fire m hh f st ev) := by
  cases f with
  | zero => exact Ends.fail.mpr (hF _)
  | succ f =>
    rw [fire_quiet hq]
    split
    · exact Ends.ok.mpr rfl
    · exact Ends.fail.mpr (hF _)

theorem climb_quiet {F : Fail → St → Prop} (hF : ∀ s, F .fuel s) {visit : Nat → St → Nat → Out} {ev : Nat → Ev} {b : Bool}
    (hv : ∀ f st s, Ends F (· = marked ev b [s] st) (visit f st s)) :
    ∀ f st s other, Ends F (fun st' => ∃ xs, Walk m s other xs ∧ st' = marked ev b xs st) (climb m visit f st s other) := by
  intro f
  induction f with
  | zero => intros; exact Ends.fail.mpr (hF _)
  | succ f ih =>
    intro st s other
    simp only [climb]
    refine (hv f st s).bind fun s1 e => ?_
    subst e
    cases hp : m.parent s with
    | none => exact ⟨[s], .root hp, rfl⟩
    | some p =>
      simp only
      cases hg : goesUp m p other with
      | false => exact ⟨[s], .stop hp hg, rfl⟩
      | true => exact (ih _ p _).mono fun st' ⟨xs, hw, e⟩ => ⟨s :: xs, .up hp hg hw, by rw [e, marked_cons]⟩

theorem leave_quiet {F : Fail → St → Prop} (hF : ∀ s, F .fuel s) {hh : Handlers} (hq : ∀ s, QuietAt hh (.leave s)) (f : Nat) (st : St)
    (s : Nat) (dest : Option Nat) :
    Ends F (fun st' => ∃ xs, Walk m s dest xs ∧ st' = marked .leave false xs st) (leave m hh f st s dest) := by
  rw [leave_eq_climb]
  exact climb_quiet hF (fun f st s => (fire_quiet_ends hF (hq s) f st).bind fun s1 e => by subst e; exact rfl) f st s dest

theorem enter_quiet {F : Fail → St → Prop} (hF : ∀ s, F .fuel s) {hh : Handlers} (hq : ∀ s, QuietAt hh (.enter s)) (f : Nat) (st : St)
    (s : Nat) (src : Option Nat) :
    Ends F (fun st' => ∃ xs, Walk m s src xs ∧ st' = marked .enter true xs st) (enter m hh f st s src) := by
  rw [enter_eq_climb]
  exact climb_quiet hF (fun f st s => fire_quiet_ends hF (hq s) f _) f st s src

def Performed (m : MDef) (st : St) (name : String) (st' : St) : Prop :=
  ∃ srcs dst xs ys, lookup m name = some (srcs, dst) ∧ srcs.contains st.cur = true ∧
    Walk m st.cur (some dst) xs ∧ Walk m dst (some st.cur) ys ∧
    st' = ⟨dst, setAll (setAll st.active xs false) ys true, st.log ++ xs.map .leave ++ ys.map .enter ++ [.called name]⟩

theorem Performed.lookup {st st' : St} {name : String} (h : Performed m st name st') :
    ∃ srcs, lookup m name = some (srcs, st'.cur) ∧ srcs.contains st.cur = true := by
  obtain ⟨srcs, dst, _, _, hl, hc, _, _, rfl⟩ := h
  exact ⟨srcs, hl, hc⟩

theorem perform_quiet (m : MDef) {hh : Handlers} (hq : Quiet hh) (f : Nat) (st : St) (name : String) :
    Ends (fun e s => e = .fuel ∨ ((e = .unknown ∨ e = .wrongSource) ∧ s = st)) (Performed m st name) (perform m hh f st name) := by
  cases f with
  | zero => exact Ends.fail.mpr (.inl rfl)
  | succ f =>
    cases hl : lookup m name with
    | none => rw [perform_unknown hl]; exact Ends.fail.mpr (.inr ⟨.inl rfl, rfl⟩)
    | some sd =>
      obtain ⟨srcs, dst⟩ := sd
      cases hc : srcs.contains st.cur with
      | false => rw [perform_wrongSource hl hc]; exact Ends.fail.mpr (.inr ⟨.inr rfl, rfl⟩)
      | true =>
        rw [perform_allowed hl hc]
        refine (leave_quiet (fun _ => .inl rfl) (fun s => hq (.leave s)) f st st.cur (some dst)).bind fun s1 ⟨xs, hx, e1⟩ => ?_
        subst e1
        refine (enter_quiet (fun _ => .inl rfl) (fun s => hq (.enter s)) f _ dst _).bind fun s2 ⟨ys, hy, e2⟩ => ?_
        subst e2
        exact (fire_quiet_ends (fun _ => .inl rfl) (hq _) f _).mono fun st' e => ⟨srcs, dst, xs, ys, hl, hc, hx, hy, e⟩

theorem perform_quiet_ok {hh : Handlers} (hq : Quiet hh) {f : Nat} {st st' : St} {name : String} (h : perform m hh f st name = .ok st') :
    Performed m st name st' := by
  have := perform_quiet m hq f st name
  rw [h] at this
  exact this

theorem inv_performed (wf : WF m) {st st' : St} {name : String} (hinv : Inv m st) (h : Performed m st name st') : Inv m st' := by
  obtain ⟨srcs, dst, xs, ys, _, _, hw1, hw2, rfl⟩ := h
  intro x
  have key := walk_sets wf _ _ _ _ hw1 hw2 x
  show setAll (setAll st.active xs false) ys true x = (chain m dst).contains x
  rw [setAll_apply, setAll_apply, hinv x, Bool.eq_iff_iff, List.contains_iff_mem, ← key]
  by_cases hy : x ∈ ys <;> by_cases hx : x ∈ xs <;> simp [hy, hx]

theorem walk_equal_depth (wf : WF m) {s d : Nat} {xs : List Nat} (hd : depth m s = depth m d) (hw : Walk m s (some d) xs) :
    ∀ x, x ∈ xs → x = s ∨ x ∉ chain m d := by
  generalize ho : some d = o at hw
  induction hw generalizing d with
  | root => exact fun x hx => .inl (List.mem_singleton.mp hx)
  | stop => exact fun x hx => .inl (List.mem_singleton.mp hx)
  | @up s p _ xs' hp hg hw' ih =>
    subst ho
    intro x hx
    refine (List.mem_cons.mp hx).imp_right fun h hm => ?_
    have hds := depth_some wf hp
    have hxp := mem_chain_depth wf p x ((walk_prefix wf hw').subset h)
    cases hq : m.parent d with
    | none =>
      have : depth m d = 1 := by simp [depth, chain_none hq]
      have := depth_pos (m := m) p
      omega
    | some q =>
      have hdd := depth_some wf hq
      rw [chain_some wf hq] at hm
      rcases List.mem_cons.mp hm with rfl | hm'
      · -- `x = d` is deeper than anything in the chain of `p`
        rcases hxp with rfl | e' <;> omega
      · simp only [Option.bind_some, hq] at ih
        rcases ih (by omega) rfl x h with rfl | e'
        · -- `x = p`, of the same depth as `q`, is `q`: but then the walk stops
          rcases mem_chain_depth wf q x hm' with rfl | e''
          · simp [goesUp, hq] at hg
          · omega
        · exact e' hm'

theorem mem_exited {s d x : Nat} : x ∈ exited m s d ↔ x ∈ chain m s ∧ (x = s ∨ x ∉ chain m d) := by
  simp [exited]

/-- Stated for the leaving side; `entered m s d` is `exited m d s` by definition, so the entering side is the same lemma with the two
walks exchanged (likewise `walk_exact`). -/
theorem walk_covers (wf : WF m) {s d : Nat} {xs ys : List Nat} (hl : Walk m s (some d) xs) (he : Walk m d (some s) ys) :
    ∀ x, x ∈ exited m s d → x ∈ xs := by
  obtain ⟨zs, h1, h2⟩ := walk_common wf hl he
  intro x hx
  obtain ⟨hs, rfl | hd⟩ := mem_exited.mp hx
  · exact walk_head hl
  · rw [h1] at hs
    rw [h2] at hd
    exact (List.mem_append.mp hs).resolve_right fun hz => hd (List.mem_append_right _ hz)

theorem walk_extra (wf : WF m) {s d : Nat} {xs ys : List Nat} (hl : Walk m s (some d) xs) (he : Walk m d (some s) ys) :
    ∀ x, x ∈ xs → x ∉ exited m s d → (x ∈ chain m s ∧ x ∈ chain m d ∧ x ∈ ys) := by
  obtain ⟨zs, h1, h2⟩ := walk_common wf hl he
  have hnd := chain_nodup wf s
  rw [h1, List.nodup_append] at hnd
  intro x hx hne
  have hs : x ∈ chain m s := h1 ▸ List.mem_append_left _ hx
  have hd : x ∈ chain m d := Decidable.byContradiction fun h => hne (mem_exited.mpr ⟨hs, .inr h⟩)
  refine ⟨hs, hd, ?_⟩
  rw [h2] at hd
  exact (List.mem_append.mp hd).resolve_right fun hz => hnd.2.2 x hx x hz rfl

theorem walk_exact (wf : WF m) {s d : Nat} {xs ys : List Nat} (hl : Walk m s (some d) xs) (he : Walk m d (some s) ys)
    (hd : depth m s = depth m d) : ∀ x, x ∈ xs ↔ x ∈ exited m s d :=
  fun x => ⟨fun hx => mem_exited.mpr ⟨(walk_prefix wf hl).subset hx, walk_equal_depth wf hd hl x hx⟩, walk_covers wf hl he x⟩

end SecsModel.Proofs.SM
