import SecsModel.Spec.GemTables
import SecsModel.Proofs.GemBase
/-!
The handlers of `Model.GemTab` against `Spec.GemTables`: a reply loop that cannot fail on its ids is a `map` (`okLoop_eq`, `reply_eq`);
storing one constant is `setOne`, described through `findEc` (`findEc_setOne`) and through the records (`forall_ecs_setOne`);
the S2F15 pre-check is a `verdict` whose passing elements are `Fits`.
-/
namespace SecsModel.Proofs.Gem.Tab
open SecsModel SecsModel.Model.Gem SecsModel.Model.Gem.Tab SecsModel.Spec.GemTables SecsModel.Proofs.Gem

theorem okLoop_eq {α β : Type} {loop : List α → Except Err (List β)} {g : α → β} {ok : α → Prop} (hnil : loop [] = .ok [])
    (hcons : ∀ a rest vs, ok a → loop rest = .ok vs → loop (a :: rest) = .ok (g a :: vs)) :
    ∀ l : List α, (∀ a ∈ l, ok a) → loop l = .ok (l.map g)
  | [], _ => hnil
  | a :: rest, h =>
    hcons a rest _ (h a List.mem_cons_self) (okLoop_eq hnil hcons rest fun x hx => h x (List.mem_cons_of_mem _ hx))

theorem reply_eq {β : Type} {loop : List Id → Except Err (List β)} {g : Id → β} {all : Except Err (List β)} {allS : List β}
    (hall : all = .ok allS) (hloop : ∀ ids, (∀ i ∈ ids, i.hashable = true) → loop ids = .ok (ids.map g))
    (ids : List Id) (h : ∀ i ∈ ids, i.hashable = true) :
    (if ids.isEmpty then all else loop ids) = .ok (if ids = [] then allS else ids.map g) := by
  cases ids with
  | nil => exact hall
  | cons i rest => exact hloop _ h

theorem find_updFirst_same {α : Type} (p : α → Bool) (f : α → α) (hf : ∀ a, p (f a) = p a) :
    ∀ l : List α, (updFirst p f l).find? p = (l.find? p).map f
  | [] => rfl
  | a :: t => by
    simp only [updFirst]
    by_cases h : p a = true
    · simp [h, hf]
    · have h' : p a = false := by simpa using h
      simp [h', find_updFirst_same p f hf t]

theorem find_updFirst {α κ : Type} [DecidableEq κ] (key : α → κ) (f : α → α) (hf : ∀ a, key (f a) = key a) (i j : κ) :
    ∀ l : List α, (updFirst (fun a => key a = i) f l).find? (fun a => key a = j)
      = (l.find? (fun a => key a = j)).map (fun a => if i = j then f a else a)
  | [] => rfl
  | a :: t => by
    by_cases hi : key a = i
    · subst hi
      by_cases hj : key a = j
      · simp [updFirst, hj, hf]
      · simp [updFirst, hj, hf]
    · by_cases hj : key a = j
      · subst hj
        simp [updFirst, hi, Ne.symm hi]
      · simp [updFirst, hi, hj, find_updFirst key f hf i j t]

theorem mem_updFirst {α : Type} (p : α → Bool) (f : α → α) :
    ∀ (l : List α) (a' : α), a' ∈ updFirst p f l → a' ∈ l ∨ ∃ a, l.find? p = some a ∧ a' = f a
  | [], a', h => by simp [updFirst] at h
  | a :: t, a', h => by
    simp only [updFirst] at h
    by_cases hp : p a = true
    · simp only [hp, if_true] at h
      rcases List.mem_cons.mp h with h | h
      · exact Or.inr ⟨a, by simp [hp], h⟩
      · exact Or.inl (List.mem_cons_of_mem _ h)
    · have hp' : p a = false := by simpa using hp
      simp only [hp', Bool.false_eq_true, if_false] at h
      rcases List.mem_cons.mp h with h | h
      · exact Or.inl (h ▸ List.mem_cons_self)
      · rcases mem_updFirst p f t a' h with h | ⟨b, hb, he⟩
        · exact Or.inl (List.mem_cons_of_mem _ h)
        · exact Or.inr ⟨b, by simp [hp', hb], he⟩

theorem finite_of_limits {x : Num} {a b : Option Dy} (ha : a.isSome = true) (hb : b.isSome = true)
    (h1 : x.geO a = true) (h2 : x.leO b = true) : Num.finite x = true := by
  obtain ⟨a, rfl⟩ := Option.isSome_iff_exists.mp ha
  obtain ⟨b, rfl⟩ := Option.isSome_iff_exists.mp hb
  cases x with
  | int n => rfl
  | flt d => rfl
  | nan => simp [Num.geO, Num.geC] at h1
  | inf neg => cases neg <;> simp [Num.geO, Num.leO, Num.geC, Num.leC] at h1 h2

theorem toInt_of_finite {x : Num} (h : Num.finite x = true) : x.toInt = .ok (trunc x) := by
  cases x <;> simp_all [Num.finite, Num.toInt, trunc]

theorem ecs_setOne (s : St) (i : Id) (x : Num) :
    (setOne s i x).ecs = updFirst (fun ec => ec.id = i) (fun ec => { ec with value := x }) s.ecs := by
  unfold setOne; cases ecKind i <;> rfl

theorem typeCheck_setOne (s : St) (i : Id) (x : Num) : (setOne s i x).typeCheck = s.typeCheck := by
  unfold setOne; cases ecKind i <;> rfl

theorem ect_setOne (s : St) (i : Id) (x : Num) : (setOne s i x).ect = if i = .nums [1] then trunc x else s.ect := by
  unfold setOne ecKind
  by_cases h1 : i = .nums [1]
  · simp [h1]
  · by_cases h2 : i = .nums [2] <;> simp [h1, h2]

theorem tf_setOne (s : St) (i : Id) (x : Num) : (setOne s i x).timeFormat = if i = .nums [2] then trunc x else s.timeFormat := by
  unfold setOne ecKind
  by_cases h1 : i = .nums [1]
  · have : ¬ (Id.nums [1] = Id.nums [2]) := by decide
    simp [h1, this]
  · by_cases h2 : i = .nums [2] <;> simp [h1, h2]

theorem findEc_setOne (s : St) (i j : Id) (x : Num) :
    (setOne s i x).findEc j = (s.findEc j).map (fun ec => if i = j then { ec with value := x } else ec) := by
  unfold St.findEc
  rw [ecs_setOne]
  exact find_updFirst Ec.id (fun ec => { ec with value := x }) (fun _ => rfl) i j s.ecs

theorem forall_ecs_setOne {G : Ec → Prop} {s : St} {i : Id} {x : Num} {ec : Ec} (hf : s.findEc i = some ec)
    (hx : G { ec with value := x }) (hg : ∀ e ∈ s.ecs, G e) : ∀ e ∈ (setOne s i x).ecs, G e := by
  intro e hm
  rw [ecs_setOne] at hm
  rcases mem_updFirst _ _ _ _ hm with hm | ⟨a, ha, rfl⟩
  · exact hg e hm
  · cases hf.symm.trans ha
    exact hx

theorem setEc_eq_setOne (s : St) (i : Id) (x : Num) (hx : ecKind i ≠ .plain → Num.finite x = true) :
    setEc s i x = .ok (setOne s i x) := by
  unfold setEc setOne
  cases hk : ecKind i with
  | plain => rfl
  | ect => simp [toInt_of_finite (hx (by rw [hk]; intro h; cases h))]
  | timeFormat => simp [toInt_of_finite (hx (by rw [hk]; intro h; cases h))]

/-- `p` passes the S2F15 pre-check in `s`: the constant exists, the value is a number within the declared limits and (patched
variant) not a float for an integer constant -/
def Fits (s : St) (p : Id × Ecv) : Prop :=
  ∃ ec x, s.findEc p.1 = some ec ∧ p.2 = .num x ∧ x.geO ec.min = true ∧ x.leO ec.max = true
    ∧ ((s.typeCheck && ec.intTyped && x.isFloat) = false)

theorem Fits.acceptable {s : St} {p : Id × Ecv} (h : Fits s p) : acceptable s p :=
  have ⟨ec, x, hf, hv, h1, h2, _⟩ := h
  ⟨ec, x, hf, hv, h1, h2⟩

theorem fits_setOne {s : St} {p : Id × Ecv} (i : Id) (x : Num) (h : Fits s p) : Fits (setOne s i x) p := by
  obtain ⟨ec, y, hf, hv, h1, h2, h3⟩ := h
  refine ⟨_, y, by rw [findEc_setOne, hf]; rfl, hv, ?_, ?_, ?_⟩
  · split <;> exact h1
  · split <;> exact h2
  · rw [typeCheck_setOne]; split <;> exact h3

theorem limits_setOne {s : St} {i j : Id} {x : Num} {ec' : Ec} (h : (setOne s i x).findEc j = some ec') :
    ∃ ec, s.findEc j = some ec ∧ ec'.min = ec.min ∧ ec'.max = ec.max := by
  rw [findEc_setOne] at h
  cases h0 : s.findEc j with
  | none => rw [h0] at h; cases h
  | some ec =>
    rw [h0] at h
    cases h
    exact ⟨ec, rfl, by split <;> rfl, by split <;> rfl⟩

theorem eacAfter_cases (s : St) (ec : Ec) (x : Num) (eac : Nat) :
    (eacAfter s ec x eac = eac ∧ x.geO ec.min = true ∧ x.leO ec.max = true ∧ (s.typeCheck && ec.intTyped && x.isFloat) = false)
    ∨ (eacAfter s ec x eac = 3 ∧
        (x.geO ec.min = false ∨ x.leO ec.max = false ∨ (s.typeCheck && ec.intTyped && x.isFloat) = true)) := by
  unfold eacAfter
  cases h3 : x.leO ec.max <;> cases h2 : x.geO ec.min <;> cases h1 : (s.typeCheck && ec.intTyped && x.isFloat) <;> simp

theorem pre15_verdict (s : St) : ∀ (req : List (Id × Ecv)) (eac d : Nat), pre15 s eac req = .ok d →
    (d = eac ∧ ∀ p ∈ req, Fits s p)
    ∨ (d ≠ 0 ∧ ∃ p ∈ req, (d = 1 ∧ s.findEc p.1 = none) ∨ (d = 3 ∧ ∃ ec x, s.findEc p.1 = some ec ∧ p.2 = .num x ∧
        (x.geO ec.min = false ∨ x.leO ec.max = false ∨ (s.typeCheck && ec.intTyped && x.isFloat) = true))) :=
  verdict (by simp [pre15]) fun eac p rest d h => by
    obtain ⟨i, v⟩ := p
    simp only [pre15] at h
    split at h
    · cases hf : s.findEc i with
      | none => exact ⟨1, by simpa only [hf] using h, .inr ⟨nofun, .inl ⟨rfl, rfl⟩⟩⟩
      | some ec =>
        cases v with
        | other => simp only [hf] at h; cases h
        | num x =>
          refine ⟨eacAfter s ec x eac, by simpa only [hf] using h, ?_⟩
          rcases eacAfter_cases s ec x eac with ⟨he, h1, h2, h3⟩ | ⟨he, hbad⟩
          · exact .inl ⟨he, ec, x, hf, rfl, h1, h2, h3⟩
          · exact .inr ⟨by simp [he], .inr ⟨he, ec, x, rfl, rfl, hbad⟩⟩
    · cases h

theorem pre15_zero {s : St} {req : List (Id × Ecv)} {eac : Nat} (h : pre15 s eac req = .ok 0) :
    eac = 0 ∧ ∀ p ∈ req, Fits s p :=
  verdict_zero (pre15_verdict s req eac 0 h) rfl

end SecsModel.Proofs.Gem.Tab
