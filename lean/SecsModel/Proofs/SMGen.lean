import SecsModel.Proofs.SMDefs
import SecsModel.Proofs.SMFlat
/-!
# Proofs.SMGen — obligations over the three generated machines (`Gen.ConnSM`, `Gen.CommSM`, `Gen.CtrlSM`)

Re-opened whenever `tools/genunits/machines.py` regenerates a different table: every name resolves, parents precede
children, the `initial=` flag sits exactly on `_current_state` (`*_resolves`); the checks `checkNoH` (connection and communication
machine, evaluated in `Props.C18.active_is_ancestors_shipped`: from every state every transition either is rejected without any change
or ends with `active = ancestors-or-self of current` and the event sequence the property prescribes) and `checkCtrl` (control machine
with its real handlers, `ctrl_allowed`: from every allowed source the request terminates in the leaf its destination forwards to, with exact flags, as many
`leave` as `enter` as `called` events, the `leave` of the source first and the `called` of the request last).
-/
namespace SecsModel.Proofs.SMGen
open SecsModel.Model.SM SecsModel.Gen SecsModel.Spec.SM SecsModel.Model.Gem.Ctrl SecsModel.Proofs.SMFlat

/-- all state names used by the table resolve to declared states -/
def resolves (t : MachineTable) : Bool :=
  let n := t.states.length
  t.states.all (fun r => match r.2.2.1 with | none => true | some p => decide (stateIdx t p < n)) &&
  t.transitions.all (fun r => r.2.1.all (fun s => decide (stateIdx t s < n)) && decide (stateIdx t r.2.2 < n)) &&
  decide (stateIdx t t.initial < n) &&
  t.wiring.all (fun w => decide (stateIdx t w.1 < n))

theorem conn_resolves : resolves ConnSM = true ∧ wfB (ofTable ConnSM) = true ∧ invB (ofTable ConnSM) (initOf ConnSM) = true := by decide +kernel
theorem comm_resolves : resolves CommSM = true ∧ wfB (ofTable CommSM) = true ∧ invB (ofTable CommSM) (initOf CommSM) = true := by decide +kernel
theorem ctrl_resolves : resolves CtrlSM = true ∧ wfB (ofTable CtrlSM) = true ∧ invB (ofTable CtrlSM) (initOf CtrlSM) = true := by decide +kernel

/-- the registered handler bodies (`Gen.CtrlMethods.handlers`) are registered on existing states — `Model.Gem.Ctrl.handlers` would silently
drop one keyed on an unknown state name — and only name existing transitions -/
theorem ctrl_forwarders_resolve :
    (CtrlMethods.handlers.all fun h => decide (stateIdx CtrlSM h.1 < CtrlSM.states.length) &&
      h.2.2.2.all fun row => row.2.2 == "" || (lookup ctrl row.2.2).isSome) = true := by decide +kernel

/-- one (state, transition) pair of a machine whose handlers request nothing: rejected without change, or performed to the
destination with exactly the prescribed flags and events.  Fuel 16 is ample (depth 2 needs 5); too little makes the check fail. -/
def checkNoH (m : MDef) (c : Nat) (t : String) : Bool :=
  let o := perform m noHandlers 16 (canon m c) t
  match lookup m t with
  | none => false
  | some (srcs, dst) =>
    if srcs.contains c then
      o.err == none && o.st.cur == dst && invB m o.st && o.st.log == expectedLog m c dst t
    else o.err == some .wrongSource && o.st.cur == c && flags m o.st == flags m (canon m c) && o.st.log == []

theorem ctrl_flat : isFlat ctrl := by
  intro s
  match s with  -- 9 = `CtrlSM.states.length`
  | 0 | 1 | 2 | 3 | 4 | 5 | 6 | 7 | 8 => rfl
  | n+9 => rfl

theorem ctrl_flatH (c : CState) (p : Option Probe) : FlatH ctrl (handlers c p) := by
  refine ⟨ctrl_flat, fun s => ?_⟩
  have : ∀ nm : String, (CtrlMethods.handlers.filter (fun h => h.1 == nm && h.2.1 == "leave")) = [] := by
    intro nm
    -- every row of `CtrlMethods.handlers` is an "enter" row; `simp` does not decide `==` on string literals
    have e : ("enter" == "leave") = false := by decide
    simp [CtrlMethods.handlers, List.filter, e]
  simp only [handlers, registered, this, List.map_nil]

/-- the leaf the forwarders lead to from `dst` (what "moves to its destination" means for CONTROL/OFFLINE/ONLINE/ATTEMPT_ONLINE).
`checkCtrl` gives fuel 8 (the longest chain, from CONTROL, has 4 hops); with too little, `settle` stops early and the check fails. -/
def settle (c : CState) (p : Option Probe) : Nat → Nat → Nat
  | 0, s => s
  | f+1, s => match (handlers c p (.enter s)).flatMap (fun cb => cb (canon ctrl s)) with
    | nm :: _ => match lookup ctrl nm with
      | some (_, d) => settle c p f d
      | none => s
    | [] => s

/-- an allowed control transition with the real handlers: terminates, ends in the leaf its destination forwards to,
flags exact, and the `leave`/`enter`/`called` events pair up: as many of each as transitions performed -/
def checkCtrl (init : String) (remote : Bool) (p : Option Probe) (c : Nat) (t : String) : Bool :=
  let cs : CState := { cur := c, flags := flags ctrl (canon ctrl c), remote := remote, initial := init }
  let o := perform ctrl (handlers cs p) SecsModel.Model.Gem.Ctrl.fuel (canon ctrl c) t
  let nL := (o.st.log.filter fun e => match e with | .leave _ => true | _ => false).length
  let nE := (o.st.log.filter fun e => match e with | .enter _ => true | _ => false).length
  let nC := (o.st.log.filter fun e => match e with | .called _ => true | _ => false).length
  match lookup ctrl t with
  | none => false
  | some (_, dst) =>
    o.err == none && invB ctrl o.st && o.st.cur == settle cs p 8 dst && nL == nC && nE == nC && 1 ≤ nC
      && o.st.log.head? == some (.leave c) && o.st.log.getLast? == some (.called t)

theorem ctrl_allowed : ∀ i ∈ inits, ∀ r ∈ [true, false], ∀ p ∈ probes, ∀ t ∈ ctrl.trans, ∀ c ∈ t.2.1,
    checkCtrl i r p c t.1 = true := by
  decide +kernel

end SecsModel.Proofs.SMGen
