import SecsModel.Props.C16
import SecsModel.Proofs.SecsILine
/-!
Composition of the line protocol facts (C17) with the block codec: each block of `split h body` has an encoding that is well framed
(`C16.block_roundtrip`) and that `Block.decode` answers with `None` when a byte at an offset ≥ 1 is altered (`Proofs.SecsI.decode_set`).
-/
namespace SecsModel.Proofs.SecsILine
open SecsModel SecsModel.Gen SecsModel.Model.SecsI SecsModel.Model.SecsILine SecsModel.Proofs.SecsIHdr SecsModel.Proofs.SecsI

theorem exists_pairs {α β : Type} {P : α → β → Prop} : ∀ bs : List β, (∀ b ∈ bs, ∃ a, P a b) →
    ∃ ps : List (α × β), ps.map (·.2) = bs ∧ ∀ p ∈ ps, P p.1 p.2
  | [], _ => ⟨[], rfl, nofun⟩
  | b :: bs, h => by
    obtain ⟨a, ha⟩ := h b List.mem_cons_self
    obtain ⟨ps, hps, hpp⟩ := exists_pairs bs fun x hx => h x (List.mem_cons_of_mem _ hx)
    refine ⟨(a, b) :: ps, by rw [List.map_cons, hps], fun p hp => ?_⟩
    rcases List.mem_cons.mp hp with rfl | hp
    · exact ha
    · exact hpp p hp

/-- what the line protocol theorems need of a block and its encoding -/
structure Encodes (enc : Bytes) (blk : Block) : Prop where
  encode : Block.encode blk = .ok enc
  framed : Framed enc blk
  rejects : ∀ t v, 1 ≤ t → t < enc.length → v < 256 → enc[t]? ≠ some v → Block.decode (enc.set t v) = .ok none

theorem message_pairs (h : Header) (body : Bytes) (hr : InRange h) (abody : AllBytes body) (hcount : (split h body).length ≤ 32767) :
    ∃ pairs : List (Bytes × Block), pairs.map (·.2) = split h body ∧ ∀ p ∈ pairs, Encodes p.1 p.2 := by
  obtain ⟨hflat, _, hsz, hhdr⟩ := Props.C16.split_correct h body
  refine exists_pairs (P := Encodes) (split h body) fun b hb => ?_
  obtain ⟨j, hj, hbj⟩ := List.getElem_of_mem hb
  have hh := hhdr j hj
  rw [List.getElem?_eq_getElem hj, hbj] at hh
  simp only [Option.map_some, Option.some.injEq] at hh
  have hrb : InRange b.header := by
    rw [hh]
    exact ⟨hr.system, hr.device, hr.stream, hr.function, by simp only; omega⟩
  have ab : AllBytes b.data := fun x hx =>
    abody x (hflat ▸ List.mem_flatten.mpr ⟨b.data, List.mem_map_of_mem hb, hx⟩)
  obtain ⟨raw, he, _, _, hd⟩ := Props.C16.block_roundtrip b.header b.data hrb ab (hsz b hb)
  obtain ⟨hbs, hh, -, -, rfl⟩ := frame_of_encode_ok he
  exact ⟨_, he, ⟨_, _, rfl, by simp [encode_length _ _ hh]; omega, hd⟩,
    fun t v ht1 ht2 hv hne => by rw [decode_set he ht2 hv hne, if_neg (by omega)]⟩

end SecsModel.Proofs.SecsILine
