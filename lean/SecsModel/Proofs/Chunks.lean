import SecsModel.Model.SecsI
/-! `Model.SecsI.chunks` cuts a byte string into pieces of a given size, for any size `n > 0`: SECS-I block data (`split`, n = 244)
and the packets of the TCP send path (`Model.TcpSend`). -/
namespace SecsModel.Proofs.SecsI
open SecsModel SecsModel.Model.SecsI

theorem chunks_nil (n : Nat) : chunks n [] = [] := by
  unfold chunks; simp

theorem chunks_cons {n : Nat} (hn : 0 < n) {data : Bytes} (hd : data ≠ []) :
    chunks n data = data.take n :: chunks n (data.drop n) := by
  rw [chunks, dif_neg (by simp [hd]; omega)]

theorem chunks_flatten {n : Nat} (hn : 0 < n) (data : Bytes) : (chunks n data).flatten = data := by
  fun_induction chunks n data with
  | case1 data h => simp [h.resolve_left (by omega)]
  | case2 data h ih => simp [ih]

theorem chunks_bound {n : Nat} (hn : 0 < n) (data : Bytes) :
    ∀ c ∈ chunks n data, 0 < c.length ∧ c.length ≤ n := by
  fun_induction chunks n data with
  | case1 => simp
  | case2 data h ih =>
    have : 0 < data.length := List.length_pos_iff.mpr (fun e => h (.inr e))
    simp only [List.mem_cons, forall_eq_or_imp, List.length_take]
    exact ⟨by omega, ih⟩

theorem chunks_length {n : Nat} (hn : 0 < n) (data : Bytes) : (chunks n data).length = (data.length + n - 1) / n := by
  fun_induction chunks n data with
  | case1 data h => simp [h.resolve_left (by omega), Nat.div_eq_of_lt (Nat.sub_lt hn Nat.one_pos)]
  | case2 data h ih =>
    have : 0 < data.length := List.length_pos_iff.mpr (fun e => h (.inr e))
    rw [List.length_cons, ih, List.length_drop]
    -- the last chunk may be short: `data.length - n` is truncated there
    rcases Nat.lt_or_ge data.length n with hlt | hge
    · rw [Nat.sub_eq_zero_of_le (Nat.le_of_lt hlt), Nat.zero_add, Nat.div_eq_of_lt (Nat.sub_lt hn Nat.one_pos),
        Nat.div_eq_of_lt_le (k := 1) (by omega) (by omega)]
    · rw [← Nat.add_div_right _ hn, Nat.sub_add_cancel hge, Nat.sub_add_comm this]

end SecsModel.Proofs.SecsI
