import SecsModel.Proofs.SmlTotal
/-!
# Proofs.SmlReject — what the parser can accept: brackets of the consumed tokens are balanced, every `<` is followed by a known
type name; and a balanced token sequence with one closer deleted has no balanced prefix (`balancedItem_delete_closer`)
-/
namespace SecsModel.Proofs.Sml
open SecsModel.Model.Sml

def neutral (t : Text) : Bool := !(t == [60]) && !isCloser t

/-- the token after a `<` is a known type name (case-insensitively, as `typeOf` decides) -/
def knownHead : List Text → Bool
  | [] => false
  | ty :: _ => (typeOf ty).isSome

/-- Scan `ts` starting inside `d` open brackets: `<` opens and must be followed by a known type name; a closer closes (`>` or `.`,
and on arbitrary token lists also the tokens `""` and `">."` that `isCloser` takes but the tokenizer never produces); everything
else is neutral.  True iff the depth reaches 0 for the first time exactly at the last token. -/
def closesExactly : Nat → List Text → Bool
  | _, [] => false
  | d, t :: ts =>
    if t = [60] then knownHead ts && closesExactly (d + 1) ts
    else if isCloser t then (if d ≤ 1 then (d == 1 && ts.isEmpty) else closesExactly (d - 1) ts)
    else closesExactly d ts

/-- a token sequence that opens with `<` + known type name and whose brackets close exactly at its end, every inner `<` being
followed by a known type name too -/
def balancedItem : List Text → Bool
  | [] => false
  | t :: ts => t == [60] && knownHead ts && closesExactly 1 ts

/-- what `float()` is assumed never to accept: `<` and the list terminators -/
def FloatRejectsBrackets (parseF : Text → Option Nat) : Prop :=
  parseF [60] = none ∧ parseF [62] = none ∧ parseF [46] = none ∧ parseF [] = none ∧ parseF [62, 46] = none

variable {α β : Type}

theorem closesExactly_neutral_cons {t : Text} (h : neutral t = true) (d : Nat) (ts : List Text) :
    closesExactly d (t :: ts) = closesExactly d ts := by
  simp only [neutral, Bool.and_eq_true, Bool.not_eq_true', beq_eq_false_iff_ne, ne_eq] at h
  simp [closesExactly, h.1, h.2]

theorem closesExactly_cons (t : Text) :
    (t = [60] ∧ ∀ d ts, closesExactly d (t :: ts) = (knownHead ts && closesExactly (d + 1) ts))
    ∨ (isCloser t = true ∧ (∀ ts, closesExactly 1 (t :: ts) = ts.isEmpty)
        ∧ ∀ d ts, closesExactly (d + 2) (t :: ts) = closesExactly (d + 1) ts)
    ∨ (neutral t = true ∧ ∀ d ts, closesExactly d (t :: ts) = closesExactly d ts) := by
  by_cases h60 : t = [60]
  · exact .inl ⟨h60, fun d ts => by simp [closesExactly, h60]⟩
  · cases hc : isCloser t with
    | true => exact .inr (.inl ⟨rfl, fun ts => by simp [closesExactly, h60, hc], fun d ts => by simp [closesExactly, h60, hc]⟩)
    | false =>
      have hn : neutral t = true := by simp [neutral, h60, hc]
      exact .inr (.inr ⟨hn, closesExactly_neutral_cons hn⟩)

theorem knownHead_append (a b : List Text) (h : knownHead a = true) : knownHead (a ++ b) = true := by
  cases a with
  | nil => simp [knownHead] at h
  | cons t a => simpa [knownHead] using h

-- depths are written `j + 1`, `k + 1`: from depth 0 nothing closes
theorem closesExactly_append (b : List Text) (k : Nat) : ∀ (a : List Text) (j : Nat), closesExactly (j + 1) a = true →
    closesExactly (j + 1 + (k + 1)) (a ++ b) = closesExactly (k + 1) b
  | [], _, h => by simp [closesExactly] at h
  | t :: a, j, h => by
    rw [List.cons_append]
    rcases closesExactly_cons t with ⟨_, ho⟩ | ⟨_, h1, hc⟩ | ⟨_, hn⟩
    · rw [ho, Bool.and_eq_true] at h
      rw [ho, knownHead_append a b h.1, Bool.true_and, Nat.add_right_comm]
      exact closesExactly_append b k a (j + 1) h.2
    · cases j with
      | zero =>
        rw [h1, List.isEmpty_iff] at h
        rw [h, Nat.zero_add, Nat.add_comm 1, hc]; rfl
      | succ j =>
        rw [hc] at h
        rw [show j + 1 + 1 + (k + 1) = j + 1 + k + 2 by omega, hc]
        exact closesExactly_append b k a j h
    · rw [hn] at h; rw [hn]; exact closesExactly_append b k a j h

theorem neutral_of_accepted {f : Text → Option α} {t : Text} {v : α} (h : f t = some v)
    (hf : f [60] = none ∧ f [62] = none ∧ f [46] = none ∧ f [] = none ∧ f [62, 46] = none) : neutral t = true := by
  have : t ≠ [60] ∧ t ≠ [62] ∧ t ≠ [46] ∧ t ≠ [] ∧ t ≠ [62, 46] := by
    refine ⟨?_, ?_, ?_, ?_, ?_⟩ <;> (rintro rfl; simp [hf] at h)
  simp [neutral, isCloser, this]

theorem pyInt_neutral {base0 : Bool} {t : Text} {v : Int} (h : pyInt base0 t = some v) : neutral t = true :=
  neutral_of_accepted h (by cases base0 <;> decide)

theorem typeOf_neutral {ty : Text} {k : Ty} (h : typeOf ty = some k) : neutral ty = true :=
  neutral_of_accepted h (by decide)

theorem numTok_neutral {base0 : Bool} {lo hi : Int} {t : Text} {vs : List Int} (h : numTok base0 lo hi t = .ok vs) :
    neutral t = true := by
  unfold numTok at h
  split at h
  · cases h
  · rename_i hv; exact pyInt_neutral hv

theorem fltTok_neutral {parseF : Text → Option Nat} (hP : FloatRejectsBrackets parseF) {ty : FltTy} {t : Text} {vs : List Nat}
    (h : fltTok parseF ty t = .ok vs) : neutral t = true := by
  unfold fltTok at h
  split at h
  · cases h
  · rename_i hv; exact neutral_of_accepted hv hP

theorem strTok_neutral {enc : Nat → Option Nat} {t : Text} {vs : List Nat} (h : strTok enc t = .ok vs) : neutral t = true := by
  unfold strTok at h
  split at h
  · rename_i hq
    cases t with
    | nil => cases hq
    | cons c r => cases hq; rfl
  · split at h
    · cases h
    · rename_i hv; exact pyInt_neutral hv

def Closes (ts : List Text) (res : Except PErr (α × List Text)) : Prop :=
  ∀ v r, res = .ok (v, r) → ∃ pre, ts = pre ++ r ∧ closesExactly 1 pre = true

theorem Closes.cons {ts : List Text} {res : Except PErr (α × List Text)} (h : Closes ts res) {t : Text}
    (ht : neutral t = true) : Closes (t :: ts) res := fun v r hr =>
  have ⟨pre, hpre, hc⟩ := h v r hr
  ⟨t :: pre, by rw [hpre]; rfl, by rw [closesExactly_neutral_cons ht, hc]⟩

theorem Closes.mapOk {ts : List Text} {res : Except PErr (α × List Text)} (h : Closes ts res) (g : α → β) :
    Closes ts (mapOk g res) := fun _ r hr =>
  have ⟨x, hx⟩ := mapOk_ok hr
  h x r hx

theorem readVals_closes (one : Text → Except PErr (List β)) (hone : ∀ t bs, one t = .ok bs → neutral t = true) :
    ∀ ts, Closes ts (readVals one ts)
  | [] => nofun
  | t :: ts => by
    unfold readVals
    split
    · rename_i ht
      intro v r h
      cases h
      exact ⟨[t], rfl, by rw [ht]; rfl⟩
    · split
      · nofun
      · rename_i bs hbs; exact ((readVals_closes one hone ts).mapOk _).cons (hone t bs hbs)

theorem readLeaf_closes (parseF : Text → Option Nat) (hP : FloatRejectsBrackets parseF) {k : Ty} (hk : k ≠ .l) (ts : List Text) :
    Closes ts (readLeaf parseF k ts) :=
  readLeaf_ind parseF hk ts (P := fun res => Closes ts res) (fun g _ h => h.mapOk g)
    (fun _ _ _ => readVals_closes _ (fun _ _ => numTok_neutral) ts) (fun _ => readVals_closes _ (fun _ _ => strTok_neutral) ts)
    (fun _ => readVals_closes _ (fun _ _ => fltTok_neutral hP) ts)

theorem checkLen_ok {len : Text} {xs : List Item} {r' r : List Text} {v : Item} (h : checkLen len xs r' = .ok (v, r)) :
    neutral len = true ∧ r' = r := by
  unfold checkLen at h
  split at h
  · cases h
  · rename_i hl
    cases h
    unfold lengthCheck at hl
    simp only at hl
    split at hl
    · cases hl
    · rename_i hv; exact ⟨pyInt_neutral hv, rfl⟩

/-- **accepted input is bracket-balanced** (for every fuel): the item reader consumed `<` followed by tokens that close that
bracket exactly at their end; the item loop consumed tokens that close the enclosing bracket exactly at their end -/
theorem read_shape (parseF : Text → Option Nat) (hP : FloatRejectsBrackets parseF) : ∀ f : Nat,
    (∀ ts v r, readItem parseF f ts = .ok (v, r) → ∃ pre, ts = [60] :: pre ++ r ∧ knownHead pre = true ∧ closesExactly 1 pre = true)
    ∧ (∀ ts, Closes ts (readLoop parseF f ts))
  | 0 => ⟨nofun, fun _ => nofun⟩
  | f + 1 => by
    have ih := read_shape parseF hP f
    constructor
    · intro ts v r hr
      have key : ∀ {ty k ts2}, typeOf ty = some k → (∃ pre, ts2 = pre ++ r ∧ closesExactly 1 pre = true) →
          ∃ pre, [60] :: ty :: ts2 = [60] :: pre ++ r ∧ knownHead pre = true ∧ closesExactly 1 pre = true :=
        fun {ty _ _} hty ⟨pre, hpre, hc⟩ =>
          ⟨ty :: pre, by rw [hpre]; rfl, by simp [knownHead, hty], by rw [closesExactly_neutral_cons (typeOf_neutral hty), hc]⟩
      rcases readItem_cases parseF ts with ⟨e, _, h⟩ | ⟨ty, k, ts2, rfl, hty, hk, h⟩ | ⟨ty, len, ts4, rfl, hty, h⟩ | ⟨ty, ts2, rfl, hty, h⟩ <;>
        rw [h] at hr
      · cases hr
      · exact key hty (readLeaf_closes parseF hP hk ts2 v r hr)
      · obtain ⟨xs, r', hxs, hck⟩ := andThen_ok hr
        obtain ⟨hlen, rfl⟩ := checkLen_ok hck
        exact key hty ((((ih.2 ts4).cons (t := [93]) (by decide)).cons hlen).cons (t := [91]) (by decide) xs r' hxs)
      · exact key hty ((ih.2 ts2).mapOk _ v r hr)
    · intro ts
      rcases readLoop_cases parseF ts with ⟨e, _, h⟩ | ⟨t, r, rfl, hc, h⟩ | ⟨t, r, rfl, _, h⟩ <;> rw [h]
      · nofun
      · intro v r' hr
        cases hr
        have h60 : t ≠ [60] := by rintro rfl; exact absurd hc (by decide)
        exact ⟨[t], rfl, by simp [closesExactly, h60, hc]⟩
      · intro v r'' hr
        obtain ⟨x, r', hx, hm⟩ := andThen_ok hr
        obtain ⟨xs, hxs⟩ := mapOk_ok hm
        obtain ⟨a, ha, hka, hca⟩ := ih.1 _ x r' hx
        obtain ⟨b, hb, hcb⟩ := ih.2 r' xs r'' hxs
        refine ⟨[60] :: a ++ b, by rw [ha, hb]; simp, ?_⟩
        simp only [List.cons_append, closesExactly, if_true]
        rw [knownHead_append a b hka, Bool.true_and, closesExactly_append b 0 a 0 hca, hcb]

def NoClose (e : Nat) (s : List Text) : Prop := ∀ p r, s = p ++ r → closesExactly e p = false

theorem NoClose.nil (e : Nat) : NoClose e [] := fun p r h => by
  rw [(List.append_eq_nil_iff.mp h.symm).1]; rfl

theorem NoClose.cons {e e' : Nat} {t : Text} {s : List Text} (h : NoClose e' s)
    (ht : ∀ p, closesExactly e' p = false → closesExactly e (t :: p) = false) : NoClose e (t :: s)
  | [], _, _ => rfl
  | t' :: p, r, hpr => by
    rw [List.cons_append] at hpr
    obtain ⟨rfl, hpr'⟩ := List.cons.inj hpr
    exact ht p (h p r hpr')

theorem closesExactly_deeper : ∀ (b : List Text) (j : Nat), closesExactly (j + 1) b = true → NoClose (j + 2) b
  | [], _, h => by simp [closesExactly] at h
  | t :: b, j, h => by
    rcases closesExactly_cons t with ⟨_, ho⟩ | ⟨_, h1, hc⟩ | ⟨_, hn⟩
    · rw [ho, Bool.and_eq_true] at h
      exact (closesExactly_deeper b (j + 1) h.2).cons fun p hp => by rw [ho, hp, Bool.and_false]
    · cases j with
      | zero =>
        rw [h1, List.isEmpty_iff] at h
        exact h ▸ (NoClose.nil 1).cons fun p hp => by rw [hc, hp]
      | succ j => rw [hc] at h; exact (closesExactly_deeper b j h).cons fun p hp => by rw [hc, hp]
    · rw [hn] at h; exact (closesExactly_deeper b j h).cons fun p hp => by rw [hn, hp]

theorem closesExactly_delete_closer (b : List Text) (c : Text) (hc : isCloser c = true) : ∀ (a : List Text) (d : Nat),
    closesExactly (d + 1) (a ++ c :: b) = true → NoClose (d + 1) (a ++ b)
  | [], d, h => by
    rcases closesExactly_cons c with ⟨rfl, _⟩ | ⟨_, h1, hcl⟩ | ⟨hn, _⟩
    · exact absurd hc (by decide)
    · cases d with
      | zero => rw [List.nil_append, h1, List.isEmpty_iff] at h; subst h; exact NoClose.nil 1
      | succ d => rw [List.nil_append, hcl] at h; exact closesExactly_deeper b d h
    · simp [neutral, hc] at hn
  | t :: a, d, h => by
    rw [List.cons_append] at h ⊢
    rcases closesExactly_cons t with ⟨_, ho⟩ | ⟨_, h1, hcl⟩ | ⟨_, hn⟩
    · rw [ho, Bool.and_eq_true] at h
      exact (closesExactly_delete_closer b c hc a (d + 1) h.2).cons fun p hp => by rw [ho, hp, Bool.and_false]
    · cases d with
      | zero => rw [h1] at h; simp at h
      | succ d => rw [hcl] at h; exact (closesExactly_delete_closer b c hc a d h).cons fun p hp => by rw [hcl, hp]
    · rw [hn] at h; exact (closesExactly_delete_closer b c hc a d h).cons fun p hp => by rw [hn, hp]

theorem balancedItem_delete_closer (a b : List Text) (c : Text) (hc : isCloser c = true)
    (h : balancedItem (a ++ c :: b) = true) : ∀ p r, a ++ b = p ++ r → balancedItem p = false := by
  cases a with
  | nil =>
    simp only [List.nil_append, balancedItem, Bool.and_eq_true, beq_iff_eq] at h
    rw [h.1.1] at hc; exact absurd hc (by decide)
  | cons t a =>
    simp only [List.cons_append, balancedItem, Bool.and_eq_true] at h
    intro p r hpr
    cases p with
    | nil => rfl
    | cons t' p =>
      obtain ⟨rfl, hpr'⟩ := List.cons.inj hpr
      rw [balancedItem, closesExactly_delete_closer b c hc a 0 h.2 p r hpr', Bool.and_false]

end SecsModel.Proofs.Sml
