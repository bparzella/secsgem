import SecsModel.Proofs.PyLemmas
import SecsModel.Spec.E5
import SecsModel.Gen.ItemHeaderVar
import SecsModel.Gen.ItemHeaderItem
/-! The generated `encode_item_header` of both APIs: for every format code and **every** length the
translated Python produces exactly `Spec.E5.header` (format byte `code<<2 | n`, the fewest big-endian length bytes), and refuses
lengths outside `0 … 0xFFFFFF`. -/
namespace SecsModel.Proofs.CodecHeader
open SecsModel SecsModel.Spec.E5

theorem fmt_byte (code n : Nat) (hn : n < 4) : code <<< 2 ||| n = code * 4 + n := by
  have := Nat.shiftLeft_add_eq_or_of_lt (a := code) (b := n) (i := 2) (by omega)
  rw [← this, Nat.shiftLeft_eq]

theorem byte2 (x : Nat) : (x &&& 16711680) >>> 16 = x / 65536 % 256 := Py.shr_and_mask x 16 8

theorem byte1 (x : Nat) : (x &&& 65280) >>> 8 = x / 256 % 256 := Py.shr_and_mask x 8 8

theorem byte0 (x : Nat) : x &&& 255 = x % 256 := Nat.and_two_pow_sub_one_eq_mod x 8

theorem bytesOf_nat : ∀ (xs : List Nat), (∀ x ∈ xs, x < 256) → Py.bytesOf (xs.map (fun (x : Nat) => (x : Int))) = .ok xs
  | [], _ => rfl
  | x :: xs, h => by
    have hx : x < 256 := h x (by simp)
    have ih := bytesOf_nat xs (fun y hy => h y (by simp [hy]))
    have c : (0 : Int) ≤ (x : Int) ∧ (x : Int) < 256 := ⟨Int.natCast_nonneg x, by omega⟩
    simp only [List.map_cons, Py.bytesOf, c, and_self, if_true, ih, Int.toNat_natCast]

/-- `Spec.E5.header` as the cascade of length thresholds in which the Python is written, the bytes spelled out -/
theorem spec_header_eq (code len : Nat) :
    Spec.E5.header code len =
      if 0xFFFFFF < len then .error .valueError
      else if 0xFFFF < len then .ok [code * 4 + 3, len / 65536 % 256, len / 256 % 256, len % 256]
      else if 0xFF < len then .ok [code * 4 + 2, len / 256 % 256, len % 256]
      else .ok [code * 4 + 1, len % 256] := by
  simp only [Spec.E5.header, nlbOf]
  by_cases h1 : 0xFFFFFF < len
  · simp [h1]
  · by_cases h2 : 0xFFFF < len
    · have a : ¬ len ≤ 0xFF := by omega
      have b : ¬ len ≤ 0xFFFF := by omega
      simp [h1, h2, a, b, be]
    · by_cases h3 : 0xFF < len
      · have a : ¬ len ≤ 0xFF := by omega
        have b : len ≤ 0xFFFF := by omega
        simp [h1, h2, h3, a, b, be]
      · have a : len ≤ 0xFF := by omega
        simp [h1, h2, h3, a, be]

-- `e3 … m0`: the generated code has `OfNat` literals, `Py.shl_nat`, `bor_nat`, `band_nat`, `shr_nat` are stated for casts
/-- the proof script shared by the two generated functions (they are separate translations of separate Python methods) -/
macro "header_exact_tac" enc:ident : tactic => `(tactic| (
  intro code len hc
  rw [spec_header_eq]
  have e3 : (3 : Int) = ((3 : Nat) : Int) := rfl
  have e2 : (2 : Int) = ((2 : Nat) : Int) := rfl
  have e1 : (1 : Int) = ((1 : Nat) : Int) := rfl
  have e16 : (16 : Int) = ((16 : Nat) : Int) := rfl
  have e8 : (8 : Int) = ((8 : Nat) : Int) := rfl
  have m2 : (16711680 : Int) = ((16711680 : Nat) : Int) := rfl
  have m1 : (65280 : Int) = ((65280 : Nat) : Int) := rfl
  have m0 : (255 : Int) = ((255 : Nat) : Int) := rfl
  have n0 : ¬ ((len : Int) < 0) := by omega
  simp only [$enc:ident, n0, decide_false, Bool.false_eq_true, if_false]
  by_cases h1 : 0xFFFFFF < len
  · have c : (len : Int) > 16777215 := by omega
    simp only [c, decide_true, if_true, h1]
  · have c : ¬ ((len : Int) > 16777215) := by omega
    simp only [c, decide_false, Bool.false_eq_true, if_false, h1]
    by_cases h2 : 0xFFFF < len
    · have c2 : (len : Int) > 65535 := by omega
      simp only [c2, decide_true, if_true, h2]
      rw [e3, e2, e16, e8, m2, m1, m0, Py.shl_nat, Py.bor_nat, Py.band_nat, Py.band_nat, Py.band_nat, Py.shr_nat, Py.shr_nat,
        fmt_byte code 3 (by omega), byte2, byte1, byte0]
      exact bytesOf_nat [code * 4 + 3, len / 65536 % 256, len / 256 % 256, len % 256] (by intro x hx; simp at hx; omega)
    · have c2 : ¬ ((len : Int) > 65535) := by omega
      simp only [c2, decide_false, Bool.false_eq_true, if_false, h2]
      by_cases h3 : 0xFF < len
      · have c3 : (len : Int) > 255 := by omega
        simp only [c3, decide_true, if_true, h3]
        rw [e2, e8, m1, m0, Py.shl_nat, Py.bor_nat, Py.band_nat, Py.band_nat, Py.shr_nat, fmt_byte code 2 (by omega), byte1, byte0]
        exact bytesOf_nat [code * 4 + 2, len / 256 % 256, len % 256] (by intro x hx; simp at hx; omega)
      · have c3 : ¬ ((len : Int) > 255) := by omega
        simp only [c3, decide_false, Bool.false_eq_true, if_false, h3]
        rw [e2, e1, m0, Py.shl_nat, Py.bor_nat, Py.band_nat, fmt_byte code 1 (by omega), byte0]
        exact bytesOf_nat [code * 4 + 1, len % 256] (by intro x hx; simp at hx; omega)))

/-- `Base.encode_item_header` (variables API), all lengths -/
theorem var_header_exact : ∀ (code len : Nat), code < 64 →
    Gen.ItemHeaderVar.encode (code : Int) (len : Int) = Spec.E5.header code len := by
  header_exact_tac Gen.ItemHeaderVar.encode

/-- `Item.encode_item_header` (Item API), all lengths -/
theorem item_header_exact : ∀ (code len : Nat), code < 64 →
    Gen.ItemHeaderItem.encode (code : Int) (len : Int) = Spec.E5.header code len := by
  header_exact_tac Gen.ItemHeaderItem.encode

theorem var_header_neg (code len : Int) (h : len < 0) : Gen.ItemHeaderVar.encode code len = .error .valueError := by
  simp [Gen.ItemHeaderVar.encode, h]

theorem item_header_neg (code len : Int) (h : len < 0) : Gen.ItemHeaderItem.encode code len = .error .valueError := by
  simp [Gen.ItemHeaderItem.encode, h]

end SecsModel.Proofs.CodecHeader
