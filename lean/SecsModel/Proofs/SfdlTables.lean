import SecsModel.Gen.SfdlKeys
import SecsModel.Model.Sfdl
/-!
What the SFDL model takes from the generated tables (`Gen.SfdlChars`, `Gen.DataItems`, `Gen.SfdlKeys`), re-proved against the
source on every run: the character classes of the tokenizer, the facts about data item class names the validation rests on, and
the names the shape construction reads.
-/
namespace SecsModel.Proofs.Sfdl
open SecsModel SecsModel.Model.Sfdl

theorem gen_chars :
    Gen.SfdlChars.whitespaces = [' ', '\t', '\n', '\r'] ∧ Gen.SfdlChars.operators = ['<', '>']
    ∧ Gen.SfdlChars.commentStart = ['#'] ∧ Gen.SfdlChars.commentEnd = ['\n', '\r'] := ⟨rfl, rfl, rfl, rfl⟩

/-- every data item class is an attribute of the `data_items` module, is unchanged by `upper()` and is not `L` -/
theorem class_facts : ∀ c ∈ Gen.DataItems.moduleClasses,
    Gen.DataItems.moduleAttrs.contains c = true ∧ upper c = c ∧ c ≠ capL := by
  -- `tools/genunits/catalogue.py` builds `moduleAttrs` from the class list, so the classes occur in it in the same order
  -- (a sublist) and one pass over both lists finds them all
  have hsub : Gen.DataItems.moduleClasses.Sublist Gen.DataItems.moduleAttrs :=
    List.isSublist_iff_sublist.mp (by decide +kernel)
  have hrest : Gen.DataItems.moduleClasses.all (fun c => upper c == c && c != capL) = true := by decide +kernel
  intro c hc
  have := List.all_eq_true.mp hrest c hc
  simp only [Bool.and_eq_true, beq_iff_eq, bne_iff_ne] at this
  exact ⟨List.contains_iff_mem.mpr (hsub.subset hc), this⟩

theorem classKnown_facts {n : List Char} (h : classKnown n = true) : attrKnown n = true ∧ upper n = n ∧ (n != capL) = true := by
  obtain ⟨h1, h2, h3⟩ := class_facts n (List.contains_iff_mem.mp h)
  exact ⟨h1, h2, by simpa using h3⟩

theorem attr_not_bracket {n : List Char} (h : attrKnown n = true) : n ≠ lt ∧ n ≠ gt := by
  constructor <;> (intro e; subst e; revert h; decide +kernel)

section keys
open SecsModel.Gen.SfdlKeys

/-- `Model.Sfdl.arrayName (.cls n) = n` and `memberKey (.item n) = n` identify a data item with its **class name**: that is right as
long as `Array.__init__` names an open list of a data item after `data_format.__name__`, a data item instance carries
`self.__class__.__name__` as `name`, and `List._generate` files arrays and items under `item_value.name` and nested lists under
`List.get_name_from_format(item)` (first element if it is a string, else `'DATA'`).  A class-level `name` attribute (which custom
data items need not have, and which may differ from the class name) must play no part in the key rule. -/
theorem gen_keys :
    String.ofList arrayHasattr = "__name__" ∧ String.ofList arrayNameExpr = "data_format.__name__"
    ∧ String.ofList itemInstanceName = "self.__class__.__name__"
    ∧ generateKeys.map String.ofList = ["item_value.name", "List.get_name_from_format(item)", "item_value.name"]
    ∧ nameFromFormatReturns.map String.ofList = ["data_format[0]", "'DATA'"]
    ∧ listDefaultName = Model.Sfdl.dataName := ⟨rfl, rfl, rfl, rfl, rfl, rfl⟩

end keys

end SecsModel.Proofs.Sfdl
