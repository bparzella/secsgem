import SecsModel.Model.SecsHandle
/-!
What `Model.SecsHandle.handle` writes (C08).  `handle_cases` is its three-way inversion (a Reject.req, nothing, or what
`handleStreamFunction` writes); from it, every frame carries the message's system bytes (`handle_sys`), which is what singles
out one message's frames among those of a sequence (`handleAll_filter_sys`), and `handle_no_data` gives the situations in which
no data message is written.
-/
namespace SecsModel.Proofs.SecsHandle
open SecsModel SecsModel.Spec.E30Comm SecsModel.Model.SecsHandle

/-- `GemHandler._on_message_received` reaches `_handle_stream_function` exactly in COMMUNICATING -/
theorem dispatches_eq (c : Comm) : dispatches c = decide (c = .communicating) := by
  cases c <;> rfl

/-- the generated guard: only an even function (a reply) is looked up among the open transactions -/
theorem toWaiter_eq (env : Env) (m : Msg) : toWaiter env m = (m.f % 2 == 0 && env.waiting.contains m.sys) := by
  simp [toWaiter, show Gen.Callbacks.waiterRepliesOnly = true from rfl]

/-- the generated order: the registered callback first, then the handler's own `_on_sXXfYY` -/
theorem selects_eq (env : Env) (s f : Nat) :
    selects env s f = if env.user.contains (s, f) then .user else if env.builtin.contains (s, f) then .builtin else .none := rfl

theorem unknownReply_eq : Gen.Callbacks.unknownReply = (9, 5) := rfl
theorem abortFunction_eq : Gen.Callbacks.abortFunction = 0 := rfl

theorem handle_cases (env : Env) (m : Msg) :
    handle env m = [.reject m.sys] ∨ handle env m = [] ∨ handle env m = handleStreamFunction env m := by
  unfold handle
  split
  · exact .inl rfl
  · split
    · exact .inr (.inl rfl)
    · split
      · exact .inr (.inr rfl)
      · exact .inr (.inl rfl)

theorem handleStreamFunction_sys (env : Env) (m : Msg) : ∀ fr ∈ handleStreamFunction env m, fr.sys = m.sys := by
  -- every frame in the body is built with `m.sys`: `h` becomes `… ∧ fr = .data … m.sys …` in each branch
  intro fr h
  simp only [handleStreamFunction, handleUnknown, abort] at h
  split at h
  · simp only [List.mem_ite_nil_right, List.mem_singleton] at h
    rw [h.2.2]; rfl
  · split at h <;>
      simp only [List.mem_append, List.mem_ite_nil_left, List.mem_ite_nil_right, List.mem_singleton, List.not_mem_nil] at h
    · rw [h.2]; rfl
    · rw [h.2]; rfl
    · rcases h with h | h <;> rw [h.2] <;> rfl

theorem handle_sys (env : Env) (m : Msg) : ∀ fr ∈ handle env m, fr.sys = m.sys := by
  intro fr h
  rcases handle_cases env m with e | e | e <;> rw [e] at h
  · cases List.mem_singleton.mp h; rfl
  · cases h
  · exact handleStreamFunction_sys env m fr h

theorem filter_sys (env : Env) (m : Msg) (k : Nat) :
    (handle env m).filter (fun fr => fr.sys == k) = if m.sys = k then handle env m else [] := by
  split
  · exact List.filter_eq_self.mpr fun fr h => by simp [handle_sys env m fr h, *]
  · exact List.filter_eq_nil_iff.mpr fun fr h => by simp [handle_sys env m fr h, *]

theorem handleAll_filter_sys (ems : List (Env × Msg)) (hd : (ems.map (·.2.sys)).Nodup) (env : Env) (m : Msg) (hm : (env, m) ∈ ems) :
    (handleAll ems).filter (fun fr => fr.sys == m.sys) = handle env m := by
  have miss : ∀ xs : List (Env × Msg), m.sys ∉ xs.map (·.2.sys) → (handleAll xs).filter (fun fr => fr.sys == m.sys) = [] := by
    intro xs hx
    induction xs with
    | nil => rfl
    | cons y ys ih =>
      rw [List.map_cons, List.mem_cons, not_or] at hx
      rw [handleAll, List.filter_append, filter_sys, if_neg (Ne.symm hx.1), ih hx.2]; rfl
  induction ems with
  | nil => cases hm
  | cons x xs ih =>
    rw [List.map_cons, List.nodup_cons] at hd
    rw [handleAll, List.filter_append, filter_sys]
    rcases List.mem_cons.mp hm with h | h
    · cases h; rw [if_pos rfl, miss xs hd.1, List.append_nil]
    · have hne : x.2.sys ≠ m.sys := fun e => hd.1 (e ▸ List.mem_map_of_mem (f := fun p : Env × Msg => p.2.sys) h)
      rw [if_neg hne, ih hd.2 h]; rfl

theorem handle_no_data (env : Env) (m : Msg) (hu : hasCallback env m.s m.f = false → m.w = false)
    (hc : hasCallback env m.s m.f = true → env.outcome m = .none ∨ (∃ s f, env.outcome m = .reply s f) ∧ env.wGate = true ∧ m.w = false) :
    (handle env m).filter Frame.isData = [] := by
  have h : handleStreamFunction env m = [] := by
    unfold handleStreamFunction
    cases hcb : hasCallback env m.s m.f
    · simp [handleUnknown, hu hcb]
    · rcases hc hcb with ho | ⟨⟨s, f, ho⟩, hg, hw⟩
      · simp [ho]
      · simp [ho, hg, hw]
  rcases handle_cases env m with e | e | e <;> rw [e]
  · rfl
  · rfl
  · rw [h]; rfl

end SecsModel.Proofs.SecsHandle
