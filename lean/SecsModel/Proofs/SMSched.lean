import SecsModel.Model.SMSched
import SecsModel.Proofs.SM
/-!
# Proofs.SMSched — with a critical section every interleaving is a serial order

Generic part: any deterministic thread program, any number of threads, one lock held from a thread's first atomic step to its
last.  Whatever the schedule, once every thread has finished the shared state is the one obtained by running the threads one
after the other in the order in which they took the lock.
Engine part: a thread running `_perform_transition` alone computes `Model.SM.perform`.
-/
namespace SecsModel.Proofs.SMSched
open SecsModel.Model.SM SecsModel.Model.SMSched SecsModel.Proofs.SM

section
variable {σ τ : Type}

theorem runsTo_unique {P : Prog σ τ} {sh l sh1 l1 sh2 l2} (h1 : RunsTo P sh l sh1 l1) (h2 : RunsTo P sh l sh2 l2) :
    sh1 = sh2 ∧ l1 = l2 := by
  induction h1 with
  | here hd =>
    cases h2 with
    | here _ => exact ⟨rfl, rfl⟩
    | more hn _ => rw [hd] at hn; cases hn
  | more hn _ ih =>
    cases h2 with
    | here hd => rw [hd] at hn; cases hn
    | more _ h2' => exact ih h2'

theorem serial_congr {P : Prog σ τ} {init init' : Nat → τ} {sh order sh'} (hs : Serial P init sh order sh')
    (h : ∀ i, i ∈ order → init' i = init i) : Serial P init' sh order sh' := by
  induction hs with
  | nil => exact .nil
  | cons h1 _ ih =>
    exact .cons (h _ (List.mem_cons_self) ▸ h1) (ih fun i hi => h i (List.mem_cons_of_mem _ hi))

variable (P : Prog σ τ)

def took (s : Sys σ τ) (i : Nat) : Sys σ τ :=
  { sh := (P.step s.sh (s.loc i)).1, loc := upd s.loc i (P.step s.sh (s.loc i)).2,
    lock := if P.done (P.step s.sh (s.loc i)).2 then none else some i }

theorem stepLocked_eq (s : Sys σ τ) (i : Nat) : stepLocked P s i =
    if P.done (s.loc i) = false ∧ (s.lock = none ∨ s.lock = some i) then took P s i else s := by
  unfold stepLocked took
  cases P.done (s.loc i) <;> cases s.lock <;> simp

/-- If the rest of the schedule finishes everybody, it is a serial run of the unfinished threads from where they stand, the lock holder
first.  By induction from the end of the schedule: a thread that moves and finishes is put in front of the order of the remainder; one
that moves and keeps the lock is already its head. -/
theorem locked_serial_from (sched : List Nat) : ∀ s : Sys σ τ, (∀ j, s.lock = some j → P.done (s.loc j) = false) →
    (∀ i, P.done ((runLocked P s sched).loc i) = true) →
    ∃ order, order.Nodup ∧ (∀ i, i ∈ order ↔ P.done (s.loc i) = false) ∧
      Serial P s.loc s.sh order (runLocked P s sched).sh ∧ ∀ j, s.lock = some j → order.head? = some j := by
  induction sched with
  | nil =>
    intro s hlock hfin
    refine ⟨[], List.nodup_nil, fun i => by simp [show P.done (s.loc i) = true from hfin i], .nil, fun j hj => ?_⟩
    have := hlock j hj
    rw [show P.done (s.loc j) = true from hfin j] at this
    cases this
  | cons i rest ih =>
    intro s hlock hfin
    simp only [runLocked, List.foldl_cons] at hfin ⊢
    rw [stepLocked_eq] at hfin ⊢
    split at hfin
    · rename_i hc
      obtain ⟨hd, hl⟩ := hc
      rw [if_pos ⟨hd, hl⟩]
      have hup : ∀ k, k ≠ i → (took P s i).loc k = s.loc k := fun k hk => by simp [took, upd, hk]
      have hholder : ∀ j, s.lock = some j → j = i := fun j hj => by
        rcases hl with h | h <;> rw [h] at hj <;> cases hj; rfl
      cases hd' : P.done (P.step s.sh (s.loc i)).2 with
      | true =>
        obtain ⟨order, hnd, hmem, hser, _⟩ := ih (took P s i) (fun j hj => by simp [took, hd'] at hj) hfin
        have hi : i ∉ order := fun h => by simpa [took, upd, hd'] using (hmem i).mp h
        refine ⟨i :: order, List.nodup_cons.mpr ⟨hi, hnd⟩, fun k => ?_, ?_, fun j hj => by rw [hholder j hj]; rfl⟩
        · by_cases hk : k = i
          · simp [hk, hd]
          · simp [hk, hmem k, hup k hk]
        · exact .cons (.more hd (.here hd')) (serial_congr hser fun k hk => (hup k fun e => hi (e ▸ hk)).symm)
      | false =>
        obtain ⟨order, hnd, hmem, hser, hhead⟩ := ih (took P s i) (fun j hj => by
          simp only [took, hd', Bool.false_eq_true, ↓reduceIte, Option.some.injEq] at hj; subst hj; simp [took, upd, hd']) hfin
        have hh := hhead i (by simp [took, hd'])
        obtain ⟨rest', rfl⟩ : ∃ r, order = i :: r := by
          cases order with
          | nil => cases hh
          | cons a r => simp at hh; exact ⟨r, by rw [hh]⟩
        have hi : i ∉ rest' := (List.nodup_cons.mp hnd).1
        cases hser with
        | cons r1 hs2 =>
          rename_i l sh1
          refine ⟨i :: rest', hnd, fun k => ?_, ?_, fun j hj => by rw [hholder j hj]; rfl⟩
          · by_cases hk : k = i
            · simp [hk, hd]
            · rw [hmem k, hup k hk]
          · have r1' : RunsTo P (P.step s.sh (s.loc i)).1 (P.step s.sh (s.loc i)).2 sh1 l := by simpa [took, upd] using r1
            exact .cons (.more hd r1') (serial_congr hs2 fun k hk => (hup k fun e => hi (e ▸ hk)).symm)
    · rename_i hc
      rw [if_neg hc]
      exact ih s hlock hfin

theorem locked_serial (sh0 : σ) (init : Nat → τ) (sched : List Nat)
    (hfin : ∀ i, P.done ((runLocked P ⟨sh0, init, none⟩ sched).loc i) = true) :
    ∃ order, order.Nodup ∧ (∀ i, i ∈ order ↔ P.done (init i) = false) ∧
      Serial P init sh0 order (runLocked P ⟨sh0, init, none⟩ sched).sh := by
  obtain ⟨order, hnd, hmem, hser, _⟩ := locked_serial_from P sched ⟨sh0, init, none⟩ (fun _ h => nomatch h) hfin
  exact ⟨order, hnd, hmem, hser⟩

end

theorem alone_is_perform (m : MDef) (h : Handlers) (f : Nat) (st : St) (name : String) :
    RunsTo (prog m h f) st (start name) (perform m h (f+1) st name).st ⟨name, .done (perform m h (f+1) st name).err⟩ := by
  have fin : ∀ (s : St) (e : Option Fail), RunsTo (prog m h f) s ⟨name, .done e⟩ s ⟨name, .done e⟩ := fun s e => .here rfl
  -- one `.more rfl` per line L1 … L8 of `_perform_transition` (`lineStep`); the case splits come after L1, L2, L4, L7
  refine .more rfl ?_
  simp only [prog, lineStep, start]
  cases hl : lookup m name with
  | none => rw [perform_unknown hl]; exact fin _ _
  | some sd =>
    obtain ⟨srcs, dst⟩ := sd
    refine .more rfl ?_
    simp only [lineStep]
    cases hc : srcs.contains st.cur with
    | false => rw [perform_wrongSource hl hc]; exact fin _ _
    | true =>
      rw [perform_allowed hl hc]
      refine .more rfl (.more rfl ?_)
      simp only [lineStep, ↓reduceIte]
      cases leave m h f st st.cur (some dst) with
      | fail e s1 => exact fin _ _
      | ok s1 =>
        refine .more rfl (.more rfl (.more rfl ?_))
        simp only [lineStep, Out.bind_ok]
        cases enter m h f { s1 with cur := dst } dst (some s1.cur) with
        | fail e s2 => exact fin _ _
        | ok s2 =>
          refine .more rfl ?_
          simp only [lineStep, Out.bind_ok]
          cases fire m h f s2 (.called name) <;> exact fin _ _

theorem two_locked_serial (m : MDef) (h : Handlers) (f : Nat) (st : St) (a b : String) (sched : List Nat)
    (hfin : ∀ i, isDone ((runLocked (prog m h f) (two st a b) sched).loc i) = true) :
    (runLocked (prog m h f) (two st a b) sched).sh = (perform m h (f+1) (perform m h (f+1) st a).st b).st ∨
    (runLocked (prog m h f) (two st a b) sched).sh = (perform m h (f+1) (perform m h (f+1) st b).st a).st := by
  obtain ⟨order, hnd, hmem, hser⟩ := locked_serial (prog m h f) st (two st a b).loc sched hfin
  have h0 : (0 : Nat) ∈ order := (hmem 0).mpr rfl
  have h1 : (1 : Nat) ∈ order := (hmem 1).mpr rfl
  have hle : ∀ i, i ∈ order → i = 0 ∨ i = 1 := by
    intro i hi
    have := (hmem i).mp hi
    simp only [prog, two] at this
    split at this
    · exact .inl ‹_›
    · split at this
      · exact .inr ‹_›
      · cases this
  have run : ∀ x s sh1 l, RunsTo (prog m h f) s (start x) sh1 l → sh1 = (perform m h (f+1) s x).st :=
    fun x s sh1 l hr => (runsTo_unique hr (alone_is_perform m h f s x)).1
  match order, hnd, h0, h1, hle, hser with
  | [], _, h0, _, _, _ => simp at h0
  | [x], _, h0, h1, _, _ => simp at h0 h1; omega
  | x :: y :: z :: rest, hnd, _, _, hle, _ =>
    have hx := hle x (by simp); have hy := hle y (by simp); have hz := hle z (by simp)
    simp only [List.nodup_cons, List.mem_cons, not_or] at hnd
    omega
  | [x, y], hnd, _, _, hle, hser =>
    have hx := hle x (by simp); have hy := hle y (by simp)
    simp only [List.nodup_cons, List.mem_cons, not_or] at hnd
    cases hser with
    | cons r1 hs2 =>
      cases hs2 with
      | cons r2 hs3 =>
        cases hs3
        rcases hx with rfl | rfl <;> rcases hy with rfl | rfl
        · omega
        · exact .inl (run a _ _ _ r1 ▸ run b _ _ _ r2)
        · exact .inr (run b _ _ _ r1 ▸ run a _ _ _ r2)
        · omega

end SecsModel.Proofs.SMSched
