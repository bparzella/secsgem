import SecsModel.Model.Pair
import SecsModel.Proofs.HsmsFsm
import SecsModel.Proofs.GemComm
/-!
# Proofs.PairBridge — one endpoint of `Model.Pair` as the product of `Model.Hsms` (C05) and `Model.GemComm` (C07)

`prodStep` handles an input of the session layer with `Model.Hsms.step Defects.none` (the code as it is) and feeds every output the GEM
handler is hooked to into `Model.GemComm.step`, in order (`toGem`); `absEnd` / `absFrames` abstract a (session, handler) state and the frames
written to `Model.Pair`; `Coupled` is the invariant under which the two endpoint models describe ONE endpoint.  `Props/C20b.lean` shows that
the product simulates the pair model step by step.

## What the abstraction forgets

system bytes and both system counters (`St.ctr`, `State.nextSys`, `State.mySys` — the product does not even tie the two counters to each
other), the open-request list `St.opn` (T6, Linktest, the select thread's pending Select.req) and the linktest timers (`St.ltStored`, `St.ltOrphans`), `St.disconnecting` (false in every coupled
state: the local close is one product step), the two timer flags (determined by the communication state in a coupled state), the queue
`State.queued` (empty while a connection exists), every frame that is not Select.req / Select.rsp / S1F13 / S1F14 (Reject.req, Separate.req, Linktest, S9F5), events,
callbacks, swallowed exceptions.

Communication states: `Spec.E30Comm.Comm` has nine, `Model.Pair.Comm` five.  ENABLED, HOST_INITIATED_CONNECT, WAIT_CR_FROM_HOST and
EQUIPMENT_INITIATED_CONNECT are not the destination of any transition of the E30 table `Spec.E30Comm.allowed` (`never_entered`; the generated table equals it,
`Proofs.GemComm.smStep_eq`), so they are never current;
`absComm` sends them to `notc` and `Coupled` excludes them.

## Who runs the receiver thread

`Model.GemComm.State` distinguishes `connected` (a transport connection exists: the protocol's receiver thread runs and writes what is
put into the send queue) from `selected` (`communicating` has fired: inbound data reaches the handler).  `Coupled` ties them to the
session state: `connected = (conn ≠ NOT_CONNECTED)`, `selected = (conn = SELECTED)`, and the session's `connected` / `communicating` /
`disconnected` events become the handler inputs `linkConnected` / `linkSelected` / `linkLost`.  An S1F13 created by the delay timer is
written at once while a connection exists (selected or not — exactly `Model.Pair`'s rule `conn ≠ nc`); created while NOT CONNECTED it
is queued and written by the next `linkConnected`, as the first frames of the new connection, where `Model.Pair` forgets it (the peer,
still NOT SELECTED, rejects it).  So `queued` is empty whenever a connection exists (part of `Coupled`), and the only frames the product
writes beyond the pair model's are those flushed at link-up (`sim_linkUp`).
-/
namespace SecsModel.Proofs.PairBridge
open SecsModel
open SecsModel.Model.Hsms (St In Out Defects SType isOpen)
open SecsModel.Spec.E30Comm (Input Output Trans allowed)
open SecsModel.Model.GemComm (State Cfg)
open SecsModel.Proofs.HsmsFsm SecsModel.Proofs.GemComm

def absConn : Spec.E37.Conn → Model.Pair.Conn
  | .notConnected => .nc | .notSelected => .ns | .selected => .sel

def occurs : Spec.E30Comm.Comm → Bool
  | .disabled | .notCommunicating | .waitCra | .waitDelay | .communicating => true
  | _ => false

def absComm : Spec.E30Comm.Comm → Model.Pair.Comm
  | .disabled => .dis | .notCommunicating => .notc | .waitCra => .wcra | .waitDelay => .wdelay | .communicating => .comm
  | .enabled | .hostInitiatedConnect | .waitCrFromHost | .equipmentInitiatedConnect => .notc      -- never current

def absEnd (h : St) (g : State) (en : Bool) : Model.Pair.End :=
  { en := en, active := h.active, conn := absConn h.conn, comm := absComm g.comm }

/-- the shipped code, no user callback for S1F13, `on_commack_requested()` not overridden.  Only the handling of an inbound S1F13 / S1F14
and of a lost link reads the configuration (`coupledState_rx13`, `_rx14`, `_linkLost`); the other steps behave alike under every `Cfg`. -/
def Shipped (cfg : Cfg) : Prop :=
  cfg.commackReq = 0 ∧ cfg.sysChecked = false ∧ cfg.commackGate = true ∧ cfg.userCbs.contains (1, 13) = false

instance (cfg : Cfg) : Decidable (Shipped cfg) := by unfold Shipped; infer_instance

/-- the consistency invariant, as a Boolean over the finite components, conjunct by conjunct: the handler's `selected` and `connected`
follow the session state; the communication state is one of the five that occur; the endpoint is enabled iff it is not DISABLED; T3 and
the delay are pending exactly in WAIT_CRA resp. WAIT_DELAY; COMMUNICATING only while SELECTED; no local close under way; nothing queued
while a connection exists -/
def coupledB (h : St) (g : State) (en : Bool) : Bool :=
  (g.selected == decide (h.conn = .selected))
  && (g.connected == decide (h.conn ≠ .notConnected))
  && occurs g.comm
  && (en == decide (g.comm ≠ .disabled))
  && (g.t3Armed == decide (g.comm = .waitCra))
  && (g.delayArmed == decide (g.comm = .waitDelay))
  && (!decide (g.comm = .communicating) || decide (h.conn = .selected))
  && !h.disconnecting
  && (decide (h.conn = .notConnected) || g.queued.isEmpty)

def Coupled (h : St) (g : State) (en : Bool) : Prop := coupledB h g en = true

instance (h : St) (g : State) (en : Bool) : Decidable (Coupled h g en) := by unfold Coupled; infer_instance

/-- what an output of the session layer is to the GEM handler (`GemHandler.__init__` / `SecsHandler.__init__` hooks):
`i` is the session input being handled, `commack` what the body of an S1F14 decodes to -/
def toGem (i : In) (commack : Option Nat) : Out → Option Input
  | .evt n =>
    if n == "connected" then some .linkConnected
    else if n == "communicating" then some .linkSelected
    else if n == "disconnected" then some .linkLost
    else none
  | .deliverApp sys =>
    if Gen.Callbacks.protocolHooks.contains ("SecsHandler", "message_received", "_on_message_received") then
      match i with
      | .rxData st f w _ _ => some (.rx st.toNat f.toNat w sys.toNat commack)
      | _ => none
    else none
  | _ => none                                                    -- frames, a requester's queue, swallowed exceptions

def runG (cfg : Cfg) : State → List Input → State × List Output
  | g, [] => (g, [])
  | g, i :: is =>
    let r := Model.GemComm.step cfg g i
    let r2 := runG cfg r.1 is
    (r2.1, r.2 ++ r2.2)

def prodStep (cfg : Cfg) (h : St) (g : State) (i : In) (commack : Option Nat) : (St × State) × (List Out × List Output) :=
  let r := Model.Hsms.step Defects.none h i
  let q := runG cfg g (r.2.filterMap (toGem i commack))
  ((r.1, q.1), (r.2, q.2))

/-- a handler-only input (timers, `enable`): the session layer is not involved -/
def gemStep (cfg : Cfg) (h : St) (g : State) (i : Input) : (St × State) × (List Out × List Output) :=
  let r := Model.GemComm.step cfg g i
  ((h, r.1), ([], r.2))

/-- `GemHandler.disable()`: `protocol.disable()` (local close: begin, end) then `_communication_state.disable()` -/
def prodDisable (cfg : Cfg) (h : St) (g : State) : (St × State) × (List Out × List Output) :=
  let r1 := prodStep cfg h g .disableBegin none
  let r2 := prodStep cfg r1.1.1 r1.1.2 .disableEnd none
  let r3 := Model.GemComm.step cfg r2.1.2 .disable
  ((r2.1.1, r3.1), (r1.2.1 ++ r2.2.1, r1.2.2 ++ r2.2.2 ++ r3.2))

/-- the session input (and S1F14 body) a `Pair.Msg` is: any system bytes; `k + 1` is the COMMACK of a refusing S1F14 -/
def inputOf (m : Model.Pair.Msg) (sys : Int) (k : Nat) : In × Option Nat :=
  match m with
  | .selReq => (.rxCtrl .selectReq sys 0, none)
  | .selRsp => (.rxCtrl .selectRsp sys 0, none)
  | .s1f13 => (.rxData 1 13 true sys true, none)
  | .s1f14 true => (.rxData 1 14 false sys true, some 0)
  | .s1f14 false => (.rxData 1 14 false sys true, some (k + 1))

def prodDeliver (cfg : Cfg) (h : St) (g : State) (m : Model.Pair.Msg) (sys : Int) (k : Nat) : (St × State) × (List Out × List Output) :=
  prodStep cfg h g (inputOf m sys k).1 (inputOf m sys k).2

def absHsmsOut : Out → Option Model.Pair.Msg
  | .tx st _ _ _ =>
    if st = SType.selectReq.code then some .selReq
    else if st = SType.selectRsp.code then some .selRsp
    else none                                                    -- Reject.req, Separate.req, Linktest, Deselect: not in the pair's vocabulary
  | _ => none

def absGemOut : Output → Option Model.Pair.Msg
  | .txS1F13 _ => some .s1f13
  | .txS1F14 _ c => some (.s1f14 (c == 0))
  | _ => none

/-- session frames first, then handler frames: within one step the session layer writes before it fires the event the handler reacts to.
At link-up this is a convention only: the S1F13 flushed from the send queue are older in it than the Select.req and go out first. -/
def absFrames (ho : List Out) (go : List Output) : List Model.Pair.Msg := ho.filterMap absHsmsOut ++ go.filterMap absGemOut

theorem toGem_communicating (i : In) (ck : Option Nat) : toGem i ck (.evt "communicating") = some .linkSelected := by rfl
theorem toGem_disconnected (i : In) (ck : Option Nat) : toGem i ck (.evt "disconnected") = some .linkLost := by rfl
theorem toGem_connected (i : In) (ck : Option Nat) : toGem i ck (.evt "connected") = some .linkConnected := by rfl
theorem toGem_app (st f : Int) (w : Bool) (s0 : Int) (d : Bool) (ck : Option Nat) (sys : Int) :
    toGem (.rxData st f w s0 d) ck (.deliverApp sys) = some (.rx st.toNat f.toNat w sys.toNat ck) := by rfl

theorem toGem_tx (i : In) (ck : Option Nat) (a b c d : Int) : toGem i ck (.tx a b c d) = none := by rfl
theorem toGem_swallowed (i : In) (ck : Option Nat) (e : Err) : toGem i ck (.swallowed e) = none := by rfl
theorem toGem_waiter (i : In) (ck : Option Nat) (sys : Int) : toGem i ck (.deliverWaiter sys) = none := by rfl

theorem code_selReq : SType.selectReq.code = 1 := rfl
theorem code_selRsp : SType.selectRsp.code = 2 := rfl
theorem code_desReq : SType.deselectReq.code = 3 := rfl
theorem code_desRsp : SType.deselectRsp.code = 4 := rfl
theorem code_lnkReq : SType.linktestReq.code = 5 := rfl
theorem code_lnkRsp : SType.linktestRsp.code = 6 := rfl
theorem code_rejReq : SType.rejectReq.code = 7 := rfl
theorem code_sepReq : SType.separateReq.code = 9 := rfl

theorem builtin_s1f13 (r : Model.GemComm.Role) : (Model.GemComm.builtin r).contains (1, 13) = true := by
  cases r <;> decide

/-- the four states `absComm` collapses are not the destination of any transition of the E30 table -/
theorem never_entered (t : Trans) (c d : Spec.E30Comm.Comm) (h : allowed t c = some d) : occurs d = true := by
  cases t <;> cases c <;> cases h <;> rfl

theorem putIfOpen_out (s : St) (sys : Int) : (Model.Hsms.putIfOpen s sys).2 = if isOpen s sys then [.deliverWaiter sys] else [] := by
  unfold Model.Hsms.putIfOpen; split <;> rfl

/-- "`Model.Hsms.step Defects.none h i` yields `r`", as far as `Coupled`, `absEnd` and `absFrames` read it: `r` = (the new session state,
the handler inputs the outputs become, the frames of the pair's vocabulary among them) -/
def Session (h : St) (i : In) (ck : Option Nat) (r : Spec.E37.Conn × List Input × List Model.Pair.Msg) : Prop :=
  let s := Model.Hsms.step Defects.none h i
  s.1.conn = r.1 ∧ s.1.disconnecting = false ∧ s.1.active = h.active ∧ s.2.filterMap (toGem i ck) = r.2.1 ∧ s.2.filterMap absHsmsOut = r.2.2

theorem session_connect (h : St) (ck : Option Nat) (hd : h.disconnecting = false) (hn : h.conn = .notConnected) :
    Session h .connect ck (.notSelected, [.linkConnected], if h.active then [.selReq] else []) := by
  cases ha : h.active <;>
    simp [Session, step_connect, connect_nc, hn, ha, hd, Model.Hsms.startTimer, List.filterMap_cons, toGem_tx, toGem_connected,
      absHsmsOut, code_selReq]

theorem session_peerClose (h : St) (ck : Option Nat) (hd : h.disconnecting = false) :
    Session h .peerClose ck (.notConnected, if h.conn = .notConnected then [] else [.linkLost], []) := by
  by_cases hn : h.conn = .notConnected <;>
    simp [Session, Model.Hsms.step, hn, hd, closeSeq_connected, List.filterMap_cons, toGem_tx, toGem_disconnected, absHsmsOut,
      code_sepReq, code_selReq, code_selRsp]

theorem session_deliver (h : St) (hd : h.disconnecting = false) (m : Model.Pair.Msg) (sys : Int) (k : Nat)
    (hw : (∃ ok, m = .s1f14 ok) → isOpen h sys = false)
    (hsel : m = .selRsp → Model.Hsms.isOpenKind h sys .select = true) :
    Session h (inputOf m sys k).1 (inputOf m sys k).2
      (match m, h.conn with
        | .selReq, .notSelected => (.selected, [.linkSelected], [.selRsp])
        | .selRsp, .notSelected => (.selected, [.linkSelected], [])
        | .selReq, .selected => (.selected, [], [.selRsp])
        | .s1f13, .selected => (.selected, [.rx 1 13 true sys.toNat none], [])
        | .s1f14 _, .selected => (.selected, [.rx 1 14 false sys.toNat (inputOf m sys k).2], [])
        | _, c => (c, [], [])) := by
  cases hc : h.conn <;> rcases m with _ | _ | _ | ⟨_ | _⟩ <;>
    simp [Session, inputOf, Model.Hsms.step, Model.Hsms.handleCtrl, Model.Hsms.handleData, Model.Hsms.withTransition, Model.Hsms.reject,
      Defects.none, hc, hd, hsel, hw, smCall_select_ns, smCall_select_sel, afterTransition_connected, toGem_tx, toGem_communicating,
      toGem_swallowed, toGem_waiter, toGem_app, absHsmsOut, code_selReq, code_selRsp, code_rejReq, putIfOpen_out, putIfOpen_conn,
      putIfOpen_disc, putIfOpen_active, List.filterMap_cons]

/-- the handler state that is coupled with session state `c`: communication state `d` and the three components the abstraction
forgets; the link flags and the timers are determined -/
def coupledState (c : Spec.E37.Conn) (d : Spec.E30Comm.Comm) (n : Nat) (m : Option Nat) (q : List Nat) : State :=
  { comm := d, connected := decide (c ≠ .notConnected), selected := decide (c = .selected),
    t3Armed := decide (d = .waitCra), delayArmed := decide (d = .waitDelay), nextSys := n, mySys := m, queued := q }

variable {cfg : Cfg} {h : St} {g : State} {en : Bool} {c : Spec.E37.Conn} {d : Spec.E30Comm.Comm} {n : Nat} {m : Option Nat} {q : List Nat}

theorem coupled_iff : Coupled h g en ↔
    ∃ d n m q, g = coupledState h.conn d n m q ∧ en = decide (d ≠ .disabled) ∧ occurs d = true
      ∧ (d = .communicating → h.conn = .selected) ∧ h.disconnecting = false ∧ (h.conn = .notConnected ∨ q = []) := by
  obtain ⟨gc, cn, sl, a, b, n, ms, q⟩ := g
  simp only [Coupled, coupledB, coupledState, Bool.and_eq_true, beq_iff_eq, Bool.or_eq_true, decide_eq_true_eq, List.isEmpty_iff,
    Bool.not_eq_eq_eq_not, Bool.not_true, decide_eq_false_iff_not, State.mk.injEq, ← Decidable.imp_iff_not_or]
  constructor
  · intro h; exact ⟨gc, n, ms, q, by simp_all⟩
  · rintro ⟨d, n', m, q', h⟩; simp_all

theorem coupled_mk (hc : h.conn = c) (hd : h.disconnecting = false) (hcomm : d = .communicating → c = .selected) (hq : c = .notConnected ∨ q = [])
    (ho : occurs d = true := by rfl) (hen : en = decide (d ≠ .disabled) := by rfl) : Coupled h (coupledState c d n m q) en :=
  coupled_iff.mpr ⟨d, n, m, q, hc ▸ rfl, hen, ho, hc ▸ hcomm, hd, hc ▸ hq⟩

theorem coupled_cases (ho : occurs d = true) (hcomm : d = .communicating → c = .selected) :
    d = .communicating ∧ c = .selected ∨ d = .disabled ∨ d = .notCommunicating ∨ d = .waitCra ∨ d = .waitDelay := by
  cases d <;> simp [occurs] at ho hcomm ⊢
  exact hcomm

theorem coupledState_enable : Model.GemComm.step cfg (coupledState c d n m q) .enable =
    if d = .disabled then (coupledState c .notCommunicating n m q, []) else (coupledState c d n m q, [.wrongSource .enable]) := by
  cases d <;> simp [step_enable, coupledState, perform_eq, allowed, leaveEffects_eq, enterEffects_eq]

theorem coupledState_disable : Model.GemComm.step cfg (coupledState c d n m q) .disable =
    (coupledState c .disabled n m q, if d = .disabled then [.wrongSource .disable] else []) := by
  cases d <;> simp [step_disable, coupledState, perform_eq, allowed, leaveEffects_eq, enterEffects_eq]

theorem coupledState_t3 : Model.GemComm.step cfg (coupledState c d n m q) .t3Expired =
    (coupledState c (if d = .waitCra then .waitDelay else d) n m q, []) := by
  cases d <;> simp [step_t3Expired, coupledState, perform_eq, allowed, leaveEffects_eq, enterEffects_eq]

theorem coupledState_delay : Model.GemComm.step cfg (coupledState c d n m q) .delayExpired =
    if d = .waitDelay then
      (coupledState c .waitCra (n + 1) (some n) (if c = .notConnected then q ++ [n] else q),
        [if c = .notConnected then .blocked else .txS1F13 n])
    else (coupledState c d n m q, []) := by
  cases d <;> simp [step_delayExpired, coupledState, perform_eq, allowed, leaveEffects_eq, enterEffects_eq, sendS1F13_eq]

theorem coupledState_linkConnected : Model.GemComm.step cfg (coupledState .notConnected d n m q) .linkConnected =
    (coupledState .notSelected d n m [], q.map .txS1F13) := by
  rw [step_linkConnected]
  simp [coupledState]

theorem coupledState_linkSelected : Model.GemComm.step cfg (coupledState .notSelected d n m []) .linkSelected =
    if d = .notCommunicating then (coupledState .selected .waitCra (n + 1) (some n) [], [.txS1F13 n])
    else (coupledState .selected d n m [], [.wrongSource .select]) := by
  rw [step_linkSelected]
  cases d <;> simp [coupledState, perform_eq, allowed, leaveEffects_eq, enterEffects_eq, sendS1F13_eq]

theorem coupledState_linkLost (hcfg : Shipped cfg) : Model.GemComm.step cfg (coupledState c d n m q) .linkLost =
    if c = .notConnected then (coupledState c d n m q, [])
    else (coupledState .notConnected (if d = .communicating then .notCommunicating else d) n m q, []) := by
  rw [step_linkLost]
  cases c <;> simp [coupledState, hcfg.2.1] <;> split <;> simp [perform_eq, allowed, leaveEffects_eq, enterEffects_eq, *]

theorem coupledState_rx13 (hcfg : Shipped cfg) (w : Bool) (sys : Nat) (ck : Option Nat) :
    Model.GemComm.step cfg (coupledState .selected d n m q) (.rx 1 13 w sys ck) =
      match d with
      | .waitCra => (coupledState .selected .communicating n m q, [.txS1F14 sys 0, .evtCommunicating])
      | .communicating => (coupledState .selected d n m q, [.callback 1 13, .txS1F14 sys 0])
      | _ => (coupledState .selected d n m q, []) := by
  obtain ⟨h1, _, h3, h4⟩ := hcfg
  have h4 : (1, 13) ∉ cfg.userCbs := by simpa using h4
  have hb : (1, 13) ∈ Model.GemComm.builtin cfg.role := by simpa using builtin_s1f13 cfg.role
  rw [step_rx, onMessage_eq]
  cases d <;> simp [coupledState, perform_eq, allowed, leaveEffects_eq, enterEffects_eq, Model.GemComm.hasCb, hb, h1, h3, h4]

/-- not an equation like its siblings: in COMMUNICATING the outputs depend on which callbacks exist, and only that they write no frame
matters here -/
theorem coupledState_rx14 (hcfg : Shipped cfg) (w : Bool) (sys k : Nat) :
    ∃ o, Model.GemComm.step cfg (coupledState .selected d n m q) (.rx 1 14 w sys (some k)) =
        (coupledState .selected (if d = .waitCra then (if k = 0 then .communicating else .waitDelay) else d) n m q, o)
      ∧ o.filterMap absGemOut = [] := by
  rw [step_rx, onMessage_eq]
  cases d <;> simp [coupledState, hcfg.2.1]
  · cases k <;> simp [perform_eq, allowed, leaveEffects_eq, enterEffects_eq, absGemOut]
  · split <;> simp [absGemOut]

theorem runG_nil : runG cfg g [] = (g, []) := rfl

theorem runG_one {i : Input} : runG cfg g [i] = Model.GemComm.step cfg g i := by
  simp [runG]

/-- one session input through the product: if the session layer does `hv` and the handler, fed `up`, lands in the coupled state of
`c` and `d`, the product lands in a coupled state with that abstraction, having written the frames of both.  `he` and `hms` are where
`Model.Pair` comes in: `e` and `ms` are what the pair model says the endpoint and its frames are after the step (`Pair.handle`, `closeEnd`, …);
at the call sites they are `rfl` once `c`, `d` and the message are constructors.  The side conditions default to evaluation; for a
symbolic `d` the caller passes `hcomm` and `ho`. -/
theorem prodStep_sim {i : In} {ck : Option Nat} {up : List Input} {fs ms : List Model.Pair.Msg} {o : List Output} {e : Model.Pair.End}
    (hv : Session h i ck (c, up, fs)) (hr : runG cfg g up = (coupledState c d n m q, o)) (hq : c = .notConnected ∨ q = [])
    (he : ⟨en, h.active, absConn c, absComm d⟩ = e) (hms : fs ++ o.filterMap absGemOut = ms)
    (hcomm : d = .communicating → c = .selected := by decide) (ho : occurs d = true := by rfl) (hen : en = decide (d ≠ .disabled) := by rfl) :
    let r := prodStep cfg h g i ck
    Coupled r.1.1 r.1.2 en ∧ absEnd r.1.1 r.1.2 en = e ∧ absFrames r.2.1 r.2.2 = ms := by
  obtain ⟨hc, hd, ha, hup, hfs⟩ := hv
  simp only [prodStep, absFrames, absEnd, hup, hfs, hc, ha, hr]
  exact ⟨coupled_mk hc hd hcomm hq ho hen, he, hms⟩

theorem prodDisable_eq (cfg : Cfg) (h : St) (g : State) : prodDisable cfg h g =
    let r := prodStep cfg h g .peerClose none
    let r3 := Model.GemComm.step cfg r.1.2 .disable
    ((r.1.1, r3.1), (r.2.1, r.2.2 ++ r3.2)) := by
  by_cases hn : h.conn = .notConnected
  · simp [prodDisable, prodStep, Model.Hsms.step, hn, runG]
  · simp [prodDisable, prodStep, Model.Hsms.step, hn, closeSeq_connected, runG, toGem_tx, toGem_disconnected]

end SecsModel.Proofs.PairBridge
