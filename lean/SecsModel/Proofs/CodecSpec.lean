import SecsModel.Spec.E5
/-! The E5 specification by itself: the reference decoder inverts the canonical encoder, and what it accepts is described by
the relation `Wire` (an item in any of its encodings), over which the completeness proofs of both APIs recurse.
First (`CodecElem`) the element level: one element's body bytes decode to the (normalised) element. -/
namespace SecsModel.Proofs.CodecElem
open SecsModel SecsModel.Spec.E5

/-- decidable equality of results, so that concrete instances can be closed by `decide` -/
instance exceptDecEq {α : Type} [DecidableEq α] : DecidableEq (Except Err α)
  | .ok a, .ok b => if h : a = b then isTrue (by rw [h]) else isFalse (fun e => by injection e; contradiction)
  | .error a, .error b => if h : a = b then isTrue (by rw [h]) else isFalse (fun e => by injection e; contradiction)
  | .ok _, .error _ => isFalse (fun e => by cases e)
  | .error _, .ok _ => isFalse (fun e => by cases e)

theorem jisByte_spec (c : Int) (b : Nat) (h : jisByte c = some b) : b < 256 ∧ (jisChar b : Int) = c := by
  simp only [jisByte] at h
  split at h
  · injection h with h; subst h; rename_i hc; subst hc; decide
  · split at h
    · injection h with h; subst h; rename_i hc; subst hc; decide
    · split at h
      · injection h with h; subst h
        rename_i hc
        have hb : (c - 65216).toNat < 256 := by omega
        refine ⟨hb, ?_⟩
        have h1 : ¬ ((c - 65216).toNat = 92) := by omega
        have h2 : ¬ ((c - 65216).toNat = 126) := by omega
        have h3 : 161 ≤ (c - 65216).toNat ∧ (c - 65216).toNat ≤ 223 := by omega
        simp only [jisChar, h1, h2, h3, and_self, if_true, if_false]
        omega
      · split at h
        · injection h with h; subst h
          rename_i hc
          refine ⟨by omega, ?_⟩
          have h1 : ¬ (c.toNat = 92) := by omega
          have h2 : ¬ (c.toNat = 126) := by omega
          have h3 : ¬ (161 ≤ c.toNat ∧ c.toNat ≤ 223) := by omega
          simp only [jisChar, h1, h2, h3, if_false]
          omega
        · simp at h

theorem jisByte_jisChar (b : Nat) (hb : b < 256) : jisByte (jisChar b : Nat) = some b := by
  unfold jisChar
  split
  · subst b; rfl
  split
  · subst b; rfl
  split
  · rename_i h1 h2 h3
    rw [jisByte, if_neg (by omega), if_neg (by omega), if_pos (by omega)]
    exact congrArg some (by omega)
  · rename_i h1 h2 h3
    rw [jisByte, if_neg (by omega), if_neg (by omega), if_neg (by omega), if_pos (by omega), Int.toNat_natCast]

theorem jis_injective (a b : Nat) (ha : a < 256) (hb : b < 256) (h : jisChar a = jisChar b) : a = b :=
  Option.some.inj ((jisByte_jisChar a ha).symm.trans (h ▸ jisByte_jisChar b hb))

/- `ofTwos_toTwos` with `256 ^ w` and its half as variables, so that `omega` sees linear terms; stated apart because `generalize 256 ^ w` is not
type-correct inside `ofTwos_toTwos` itself. -/
theorem twos_aux (M H : Nat) (e : Int) (hM : M = 2 * H) (h1 : -(H : Int) ≤ e) (h2 : e < (H : Int)) :
    (if 2 * (e % (M : Int)).toNat < M then (((e % (M : Int)).toNat : Nat) : Int) else (((e % (M : Int)).toNat : Nat) : Int) - (M : Int)) = e := by
  subst hM
  by_cases hneg : e < 0
  · have hm : e % ((2 * H : Nat) : Int) = e + ((2 * H : Nat) : Int) := by
      rw [← Int.add_emod_right]
      exact Int.emod_eq_of_lt (by omega) (by omega)
    rw [hm]
    have hnn : 0 ≤ e + ((2 * H : Nat) : Int) := by omega
    have hc : (((e + ((2 * H : Nat) : Int)).toNat : Nat) : Int) = e + ((2 * H : Nat) : Int) := Int.toNat_of_nonneg hnn
    split <;> omega
  · have hm : e % ((2 * H : Nat) : Int) = e := Int.emod_eq_of_lt (by omega) (by omega)
    rw [hm]
    have hc : ((e.toNat : Nat) : Int) = e := Int.toNat_of_nonneg (by omega)
    split <;> omega

theorem pow256_even (w : Nat) (hw : 0 < w) : 256 ^ w = 2 * (256 ^ w / 2) := by
  obtain ⟨k, rfl⟩ : ∃ k, w = k + 1 := ⟨w - 1, by omega⟩
  rw [Nat.pow_succ]; omega

theorem ofTwos_toTwos (w : Nat) (e : Int) (hw : 0 < w) (h1 : -(((256 ^ w / 2 : Nat)) : Int) ≤ e) (h2 : e < ((256 ^ w / 2 : Nat) : Int)) :
    ofTwos w (toTwos w e) = e :=
  twos_aux (256 ^ w) (256 ^ w / 2) e (pow256_even w hw) h1 h2

theorem toTwos_lt (w : Nat) (e : Int) : toTwos w e < 256 ^ w := by
  have hp : 0 < 256 ^ w := Nat.pow_pos (by decide)
  simp only [toTwos]
  have h1 : e % ((256 ^ w : Nat) : Int) < ((256 ^ w : Nat) : Int) := Int.emod_lt_of_pos _ (by omega)
  have h0 : 0 ≤ e % ((256 ^ w : Nat) : Int) := Int.emod_nonneg _ (by omega)
  omega

theorem ofTwos_range (w n : Nat) (hw : 0 < w) (hn : n < 256 ^ w) :
    -((256 ^ w / 2 : Nat) : Int) ≤ ofTwos w n ∧ ofTwos w n < ((256 ^ w / 2 : Nat) : Int) := by
  have heven := pow256_even w hw
  simp only [ofTwos]
  generalize 256 ^ w = M at *
  generalize M / 2 = H at *
  subst heven
  split <;> omega

theorem be_roundtrip (w : Nat) (e : Int) (h0 : 0 ≤ e) (h1 : e < ((256 ^ w : Nat) : Int)) :
    (be w e.toNat).length = w ∧ AllBytes (be w e.toNat) ∧ ((ofBe (be w e.toNat) : Nat) : Int) = e :=
  ⟨be_length _ _, be_allBytes _ _, by rw [ofBe_be_of_lt _ _ (by omega)]; omega⟩

/-- the numeric formats: those whose elements go through `struct` -/
abbrev Numeric (t : Ty) : Prop := t.kind = .sint ∨ t.kind = .uint ∨ t.kind = .f32 ∨ t.kind = .f64

abbrev IsInt (t : Ty) : Prop := t.kind = .sint ∨ t.kind = .uint

abbrev IsFloat (t : Ty) : Prop := t = .f4 ∨ t = .f8

theorem Numeric.cases {t : Ty} (h : Numeric t) : IsInt t ∨ IsFloat t := by
  cases t <;> simp [Numeric, IsInt, IsFloat, Ty.kind] at h ⊢

theorem Numeric.eq_one {t : Ty} (h : Numeric t) :
    t = .i1 ∨ t = .i2 ∨ t = .i4 ∨ t = .i8 ∨ t = .u1 ∨ t = .u2 ∨ t = .u4 ∨ t = .u8 ∨ t = .f4 ∨ t = .f8 := by
  cases t <;> simp [Numeric, Ty.kind] at h ⊢

theorem IsFloat.kind {t : Ty} (h : IsFloat t) : t.kind = .f32 ∨ t.kind = .f64 := by rcases h with rfl | rfl <;> decide

theorem IsFloat.numeric {t : Ty} (h : IsFloat t) : Numeric t := .inr (.inr h.kind)

@[elab_as_elim]
theorem _root_.SecsModel.Spec.E5.Ty.kind_cases {motive : Ty → Prop} (b : motive .b) (bool : motive .bool) (a : motive .a) (j : motive .j)
    (num : ∀ t, Numeric t → motive t) : ∀ t, motive t := by
  intro t; cases t <;> first | assumption | exact num _ (by decide)

theorem _root_.SecsModel.Spec.E5.Ty.int_cases {t : Ty} :
    (t.kind = .uint → t = .u1 ∨ t = .u2 ∨ t = .u4 ∨ t = .u8) ∧ (t.kind = .sint → t = .i1 ∨ t = .i2 ∨ t = .i4 ∨ t = .i8) := by
  cases t <;> simp [Ty.kind]

theorem _root_.SecsModel.Spec.E5.Ty.mem_all (t : Ty) : t ∈ Ty.all := by cases t <;> decide

theorem width_pos (t : Ty) : 0 < t.width := by cases t <;> decide

theorem uint_facts (t : Ty) (h : t.kind = .uint) : t.lo = 0 ∧ t.hi + 1 = ((256 ^ t.width : Nat) : Int) := by
  cases t <;> simp [Ty.kind] at h <;> decide

theorem sint_facts (t : Ty) (h : t.kind = .sint) :
    t.lo = -((256 ^ t.width / 2 : Nat) : Int) ∧ t.hi + 1 = ((256 ^ t.width / 2 : Nat) : Int) := by
  cases t <;> simp [Ty.kind] at h <;> decide

theorem normElem_of_ne_f4 (t : Ty) (e : Int) (h : t ≠ .f4) : normElem t e = e := by
  cases t <;> simp [normElem] at h ⊢

theorem okElem_int {t : Ty} (h : IsInt t) (e : Int) : okElem t e = decide (t.lo ≤ e ∧ e ≤ t.hi) := by
  rcases h with h | h <;> simp only [okElem, h]

theorem ne_f4_of_int {t : Ty} (h : IsInt t) : t ≠ .f4 := by
  rintro rfl; rcases h with h | h <;> cases h

theorem elem_roundtrip (t : Ty) (e : Int) (bs : Bytes) (h : elemEnc t e = .ok bs) :
    bs.length = t.width ∧ AllBytes bs ∧ elemDec t bs = normElem t e := by
  have hok : okElem t e = true := by
    cases hok : okElem t e with
    | true => rfl
    | false => simp [elemEnc, hok] at h
  simp only [elemEnc, hok, Bool.true_eq_false, if_false] at h
  induction t using Ty.kind_cases with
  | b | a =>
    have hok : 0 ≤ e ∧ e ≤ 255 := of_decide_eq_true hok
    injection h with h; subst h
    exact be_roundtrip 1 e hok.1 (by omega)
  | bool =>
    have hok : 0 ≤ e ∧ e ≤ 1 := of_decide_eq_true hok
    have : e = 0 ∨ e = 1 := by omega
    injection h with h; subst h
    rcases this with rfl | rfl <;> decide
  | j =>
    simp only [Ty.kind] at h
    split at h
    · rename_i b hb
      injection h with h; subst h
      obtain ⟨hb1, hb2⟩ := jisByte_spec e b hb
      exact ⟨rfl, AllBytes.cons_iff.mpr ⟨hb1, .nil⟩, by simpa only [elemDec, Ty.kind, ofBe_single, normElem] using hb2⟩
    · simp at h
  | num t hk =>
    rcases hk.cases with (hk | hk) | (rfl | rfl)
    · simp only [hk] at h
      injection h with h; subst h
      obtain ⟨hlo, hhi⟩ := sint_facts t hk
      simp only [okElem, hk, decide_eq_true_eq] at hok
      refine ⟨be_length _ _, be_allBytes _ _, ?_⟩
      simp only [elemDec, hk, normElem_of_ne_f4 t e (ne_f4_of_int (.inl hk))]
      rw [ofBe_be_of_lt _ _ (toTwos_lt _ _)]
      exact ofTwos_toTwos _ _ (width_pos t) (by omega) (by omega)
    · simp only [hk] at h
      injection h with h; subst h
      obtain ⟨hlo, hhi⟩ := uint_facts t hk
      simp only [okElem, hk, decide_eq_true_eq, hlo] at hok
      simp only [elemDec, hk, normElem_of_ne_f4 t e (ne_f4_of_int (.inr hk))]
      exact be_roundtrip t.width e hok.1 (by omega)
    · simp only [Ty.kind] at h
      split at h
      · rename_i f hf
        injection h with h; subst h
        refine ⟨be_length _ _, be_allBytes _ _, ?_⟩
        simp only [elemDec, Ty.kind, normElem, hf]
        rw [ofBe_be_of_lt _ _ (IEEE.round32_lt _ _ hf)]
      · simp at h
    · have hok : 0 ≤ e ∧ e < 18446744073709551616 := of_decide_eq_true hok
      injection h with h; subst h
      exact be_roundtrip 8 e hok.1 (by omega)

end SecsModel.Proofs.CodecElem

namespace SecsModel.Proofs.CodecSpec
open SecsModel SecsModel.Spec.E5 SecsModel.Proofs.CodecElem

theorem takeN_append (a b : Bytes) : takeN a.length (a ++ b) = some (a, b) := by
  simp [takeN]

theorem takeN_some {n : Nat} {bs p r : Bytes} (h : takeN n bs = some (p, r)) : bs = p ++ r ∧ p.length = n := by
  simp only [takeN] at h
  split at h
  · simp at h
  · rename_i hl
    injection h with h
    injection h with h1 h2
    subst h1; subst h2
    refine ⟨(List.take_append_drop n bs).symm, ?_⟩
    rw [List.length_take]; omega

theorem chunksN_append (w : Nat) : ∀ (n : Nat) (p rest : Bytes), p.length = n * w → chunksN w n (p ++ rest) = chunksN w n p
  | 0, _, _, _ => rfl
  | n+1, p, rest, h => by
    have hw : w ≤ p.length := by rw [h, Nat.succ_mul]; omega
    simp only [chunksN]
    rw [List.take_append_of_le_length hw, List.drop_append_of_le_length hw]
    rw [chunksN_append w n (p.drop w) rest (by rw [List.length_drop, h, Nat.succ_mul]; omega)]

theorem chunksN_mem (w : Nat) : ∀ (n : Nat) (body : Bytes), n * w ≤ body.length → AllBytes body →
    ∀ c ∈ chunksN w n body, c.length = w ∧ AllBytes c
  | 0, _, _, _, c, hc => by simp [chunksN] at hc
  | n+1, body, hl, hab, c, hc => by
    have hw : w ≤ body.length := by rw [Nat.succ_mul] at hl; omega
    simp only [chunksN, List.mem_cons] at hc
    rcases hc with h | h
    · subst h
      exact ⟨by rw [List.length_take]; omega, hab.take _⟩
    · exact chunksN_mem w n (body.drop w) (by rw [List.length_drop, Nat.succ_mul] at *; omega) (hab.drop _) c h

theorem chunksN_length (w : Nat) : ∀ (n : Nat) (body : Bytes), (chunksN w n body).length = n
  | 0, _ => rfl
  | n+1, body => by simp [chunksN, chunksN_length w n]

theorem chunksN_one : ∀ (p : Bytes), chunksN 1 p.length p = p.map (fun b => [b])
  | [] => rfl
  | b :: bs => by simp [chunksN, chunksN_one bs]

/-- the body bytes `p` of an item of format `t`, read element by element (as `decItem` does) -/
def decElems (t : Ty) (p : Bytes) : List Int := (chunksN t.width (p.length / t.width) p).map (elemDec t)

theorem decElems_length (t : Ty) (p : Bytes) : (decElems t p).length = p.length / t.width := by
  rw [decElems, List.length_map, chunksN_length]

theorem decElems_mem {t : Ty} {p : Bytes} (hm : p.length % t.width = 0) (hab : AllBytes p) {e : Int} (he : e ∈ decElems t p) :
    ∃ c, c.length = t.width ∧ AllBytes c ∧ e = elemDec t c := by
  obtain ⟨c, hc, rfl⟩ := List.mem_map.mp he
  have hnw : p.length / t.width * t.width = p.length := Nat.div_mul_cancel (Nat.dvd_of_mod_eq_zero hm)
  obtain ⟨l1, l2⟩ := chunksN_mem t.width _ p (Nat.le_of_eq hnw) hab c hc
  exact ⟨c, l1, l2, rfl⟩

theorem decElems_width_one {t : Ty} (hw : t.width = 1) (p : Bytes) : decElems t p = p.map (fun b => elemDec t [b]) := by
  rw [decElems, hw, Nat.div_one, chunksN_one, List.map_map]; rfl

theorem decElems_byte {t : Ty} (ht : t = .b ∨ t = .a) (p : Bytes) : decElems t p = p.map (fun (b : Nat) => (b : Int)) := by
  have hw : t.width = 1 := by rcases ht with rfl | rfl <;> rfl
  rw [decElems_width_one hw]
  apply List.map_congr_left
  intro b _
  rcases ht with rfl | rfl <;> simp [elemDec, Ty.kind, ofBe]

theorem decElems_j (p : Bytes) : decElems .j p = p.map (fun (b : Nat) => ((jisChar b : Nat) : Int)) := by
  rw [decElems_width_one rfl]; apply List.map_congr_left; intro b _; simp [elemDec, Ty.kind, ofBe]

theorem decElems_bool (p : Bytes) : decElems .bool p = p.map (fun (b : Nat) => if b = 0 then (0 : Int) else 1) := by
  rw [decElems_width_one rfl]; apply List.map_congr_left; intro b _; simp [elemDec, Ty.kind, ofBe]

/- Inversion of the two-step `match` by which every encoder of the Spec chains two results.  Stated for `Bytes` on purpose: Lean then reuses the
matcher of `encElems`, `encode` and `encodeList`, so that `ok_of_match_ok` applies to their unfolded bodies as they stand. -/
theorem ok_of_match_ok {a : Except Err Bytes} {b : Bytes → Except Err Bytes} {f : Bytes → Bytes → Bytes} {c : Bytes}
    (h : (match a with | .error e => .error e | .ok x => match b x with | .error e => .error e | .ok y => .ok (f x y)) = Except.ok c) :
    ∃ x y, a = .ok x ∧ b x = .ok y ∧ c = f x y := by
  cases a with
  | error e => cases h
  | ok x =>
    cases hb : b x with
    | error e => simp [hb] at h
    | ok y => exact ⟨x, y, rfl, hb, by simpa [hb] using h.symm⟩

theorem encElems_spec (t : Ty) : ∀ (es : List Int) (p : Bytes), encElems t es = .ok p →
    p.length = es.length * t.width ∧ AllBytes p ∧ (chunksN t.width es.length p).map (elemDec t) = es.map (normElem t)
  | [], p, h => by
    simp only [encElems] at h; injection h with h; subst h
    exact ⟨by simp, .nil, rfl⟩
  | e :: es, p, h => by
    rw [encElems] at h
    obtain ⟨b, r, hb, hr, rfl⟩ := ok_of_match_ok h
    obtain ⟨hl, hab, hd⟩ := elem_roundtrip t e b hb
    obtain ⟨ihl, ihab, ihd⟩ := encElems_spec t es r hr
    refine ⟨?_, AllBytes.append_iff.mpr ⟨hab, ihab⟩, ?_⟩
    · rw [List.length_append, hl, ihl, List.length_cons, Nat.succ_mul]; omega
    · have e1 : (b ++ r).take t.width = b := by rw [← hl]; exact List.take_left' rfl
      have e2 : (b ++ r).drop t.width = r := by rw [← hl]; exact List.drop_left' rfl
      simp only [List.length_cons, chunksN, List.map_cons, e1, e2, hd, ihd]

theorem decElems_encElems {t : Ty} {es : List Int} {p : Bytes} (h : encElems t es = .ok p) : decElems t p = es.map (normElem t) := by
  obtain ⟨pl, _, pd⟩ := encElems_spec t es p h
  rw [decElems, pl, Nat.mul_div_cancel _ (width_pos t), pd]

theorem header_ok {code len : Nat} {h : Bytes} (hh : header code len = .ok h) :
    len ≤ 0xFFFFFF ∧ h = (code * 4 + nlbOf len) :: be (nlbOf len) len := by
  simp only [header] at hh
  split at hh
  · simp at hh
  · injection hh with hh; exact ⟨by omega, hh.symm⟩

theorem header_succeeds (code len : Nat) (h : len ≤ 0xFFFFFF) : ∃ hd, header code len = .ok hd := by
  simp only [header]
  have : ¬ (0xFFFFFF < len) := by omega
  rw [if_neg this]; exact ⟨_, rfl⟩

theorem nlbOf_range (len : Nat) : 1 ≤ nlbOf len ∧ nlbOf len ≤ 3 := by
  simp only [nlbOf]; split
  · omega
  · split <;> omega

theorem len_lt_pow (len : Nat) (h : len ≤ 0xFFFFFF) : len < 256 ^ nlbOf len := by
  simp only [nlbOf]; split
  · omega
  · split <;> omega

theorem encode_item_ok {t : Ty} {es : List Int} {bs : Bytes} (he : encode (.item t es) = .ok bs) :
    ∃ p h, encElems t es = .ok p ∧ header t.code p.length = .ok h ∧ bs = h ++ p := by
  rw [encode] at he; exact ok_of_match_ok he

theorem encode_list_ok {xs : List Val} {bs : Bytes} (he : encode (.list xs) = .ok bs) :
    ∃ h p, header 0 xs.length = .ok h ∧ encodeList xs = .ok p ∧ bs = h ++ p := by
  rw [encode] at he; exact ok_of_match_ok he

theorem encodeList_cons_ok {x : Val} {xs : List Val} {bs : Bytes} (he : encodeList (x :: xs) = .ok bs) :
    ∃ a b, encode x = .ok a ∧ encodeList xs = .ok b ∧ bs = a ++ b := by
  rw [encodeList] at he; exact ok_of_match_ok he

/-- format byte `fb` and length bytes `lb` form a header announcing format code `code` and length `len`
(1, 2 or 3 length bytes, whatever the length) -/
structure Hdr (fb : Nat) (lb : Bytes) (code len : Nat) : Prop where
  byte : fb < 256
  count : lb.length = fb % 4
  pos : fb % 4 ≠ 0
  code : fb / 4 = code
  len : ofBe lb = len
  bytes : AllBytes lb

theorem Hdr.canonical (code len : Nat) (hc : code < 64) (hl : len ≤ 0xFFFFFF) :
    Hdr (code * 4 + nlbOf len) (be (nlbOf len) len) code len := by
  have := nlbOf_range len
  exact {
    byte := by omega
    count := by rw [be_length]; omega
    pos := by omega
    code := by omega
    len := ofBe_be_of_lt _ _ (len_lt_pow len hl)
    bytes := be_allBytes _ _ }

theorem Hdr.len_le {fb : Nat} {lb : Bytes} {code len : Nat} (h : Hdr fb lb code len) : len ≤ 0xFFFFFF := by
  have := ofBe_lt lb h.bytes
  have h3 : lb.length ≤ 3 := by have := h.count; omega
  have : 256 ^ lb.length ≤ 256 ^ 3 := Nat.pow_le_pow_right (by decide) h3
  have := h.len
  omega

theorem spec_decHeader_hdr {fb : Nat} {lb : Bytes} {code len : Nat} (hd : Hdr fb lb code len) (rest : Bytes) :
    decHeader (fb :: (lb ++ rest)) = some (code, len, rest) := by
  have c : ¬ (256 ≤ fb ∨ fb % 4 = 0) := by have := hd.byte; have := hd.pos; omega
  simp only [decHeader]
  rw [if_neg c, ← hd.count, takeN_append]
  simp only [hd.code, hd.len]

theorem decHeader_header (code len : Nat) (rest : Bytes) (hc : code < 64) (hl : len ≤ 0xFFFFFF) :
    decHeader ((code * 4 + nlbOf len) :: be (nlbOf len) len ++ rest) = some (code, len, rest) :=
  spec_decHeader_hdr (Hdr.canonical code len hc hl) rest

theorem decHeader_some {bs r0 : Bytes} {code len : Nat} (h : decHeader bs = some (code, len, r0)) (hab : AllBytes bs) :
    ∃ fb lb, bs = fb :: (lb ++ r0) ∧ AllBytes r0 ∧ Hdr fb lb code len := by
  match bs with
  | [] => simp [decHeader] at h
  | fb :: r =>
    simp only [decHeader] at h
    split at h
    · simp at h
    · rename_i hc
      split at h
      · simp at h
      · rename_i lb r' ht
        injection h with h
        injection h with h1 h2
        injection h2 with h2 h3
        obtain ⟨rfl, e2⟩ := takeN_some ht
        subst h3
        obtain ⟨hlb, hr⟩ := AllBytes.append_iff.mp (AllBytes.cons_iff.mp hab).2
        exact ⟨fb, lb, rfl, hr, { byte := by omega, count := e2, pos := by omega, code := h1, len := h2, bytes := hlb }⟩

theorem ofCode_code (t : Ty) : Ty.ofCode t.code = some t := by cases t <;> rfl
theorem code_lt (t : Ty) : t.code < 64 ∧ t.code ≠ 0 := by cases t <;> decide

theorem ofCode_some {code : Nat} {t : Ty} (h : Ty.ofCode code = some t) : t.code = code := by
  simp only [Ty.ofCode] at h
  have := List.find?_some h
  simpa using this

theorem size_pos (v : Val) : 1 ≤ v.size := by cases v <;> simp [Val.size]

mutual
theorem dec_enc (v : Val) (bs : Bytes) (he : encode v = .ok bs) (f : Nat) (hf : v.size ≤ f) (rest : Bytes) :
    decItem f (bs ++ rest) = some (norm v, rest) := by
  match v, f with
  | v, 0 => have := size_pos v; omega
  | .item t es, f+1 =>
    obtain ⟨p, h, hp, hh, rfl⟩ := encode_item_ok he
    obtain ⟨hlen, rfl⟩ := header_ok hh
    obtain ⟨c1, c2⟩ := code_lt t
    have hmod : p.length % t.width = 0 := by rw [(encElems_spec t es p hp).1]; exact Nat.mul_mod_left _ _
    have hd : (chunksN t.width (p.length / t.width) p).map (elemDec t) = es.map (normElem t) := decElems_encElems hp
    simp only [decItem, List.append_assoc]
    rw [decHeader_header t.code p.length (p ++ rest) c1 hlen]
    simp only [c2, if_false, ofCode_code, hmod, ne_eq, not_true_eq_false, takeN_append, hd, norm]
  | .list xs, f+1 =>
    obtain ⟨h, p, hh, hp, rfl⟩ := encode_list_ok he
    obtain ⟨hlen, rfl⟩ := header_ok hh
    simp only [Val.size] at hf
    simp only [decItem, List.append_assoc]
    rw [decHeader_header 0 xs.length (p ++ rest) (by omega) hlen]
    simp only [if_true, decList_enc xs p hp f (by omega) rest, norm]
theorem decList_enc (xs : List Val) (bs : Bytes) (he : encodeList xs = .ok bs) (f : Nat) (hf : sizeList xs ≤ f) (rest : Bytes) :
    decList f xs.length (bs ++ rest) = some (normList xs, rest) := by
  match xs, f with
  | [], f =>
    simp only [encodeList] at he; injection he with he; subst he
    cases f <;> simp [decList, normList]
  | x :: xs, 0 =>
    simp only [sizeList] at hf
    have := size_pos x; omega
  | x :: xs, f+1 =>
    obtain ⟨a, b, ha, hb, rfl⟩ := encodeList_cons_ok he
    simp only [sizeList] at hf
    simp only [List.length_cons, decList, List.append_assoc]
    rw [dec_enc x a ha f (by omega) (b ++ rest)]
    simp only [decList_enc xs b hb f (by omega) rest, normList]
end

mutual
/-- the encoding is longer than the size measure (so `decodeAny`'s fuel always suffices) -/
theorem size_le (v : Val) (bs : Bytes) (he : encode v = .ok bs) : v.size + 1 ≤ bs.length := by
  match v with
  | .item t es =>
    obtain ⟨p, h, _, hh, rfl⟩ := encode_item_ok he
    obtain ⟨_, rfl⟩ := header_ok hh
    have := (nlbOf_range p.length).1
    simp only [Val.size, List.length_append, List.length_cons, be_length]
    omega
  | .list xs =>
    obtain ⟨h, p, hh, hp, rfl⟩ := encode_list_ok he
    obtain ⟨_, rfl⟩ := header_ok hh
    have := sizeList_le xs p hp
    have := (nlbOf_range xs.length).1
    simp only [Val.size, List.length_append, List.length_cons, be_length]
    omega
theorem sizeList_le (xs : List Val) (bs : Bytes) (he : encodeList xs = .ok bs) : sizeList xs ≤ bs.length := by
  match xs with
  | [] => simp [sizeList]
  | x :: xs =>
    obtain ⟨a, b, ha, hb, rfl⟩ := encodeList_cons_ok he
    have h1 := size_le x a ha
    have h2 := sizeList_le xs b hb
    simp only [sizeList, List.length_append]
    omega
end

theorem spec_sound (v : Val) (bs rest : Bytes) (he : encode v = .ok bs) :
    decodeAny (bs ++ rest) = some (norm v, rest) := by
  have := size_le v bs he
  exact dec_enc v bs he _ (by rw [List.length_append]; omega) rest

mutual
/-- `Wire p v`: the byte string `p` is an E5 item denoting `v`, in any of its encodings (each header with 1, 2 or 3 length bytes).
What `decodeAny` accepts is a `Wire` prefix of its input (`decItem_wire`). -/
inductive Wire : Bytes → Val → Prop
  | item {fb : Nat} {lb p : Bytes} {t : Ty} {es : List Int} : Hdr fb lb t.code p.length → p.length % t.width = 0 → AllBytes p →
      es = decElems t p → Wire (fb :: (lb ++ p)) (.item t es)
  | list {fb : Nat} {lb ps : Bytes} {xs : List Val} : Hdr fb lb 0 xs.length → WireList ps xs → Wire (fb :: (lb ++ ps)) (.list xs)
inductive WireList : Bytes → List Val → Prop
  | nil : WireList [] []
  | cons {p ps : Bytes} {x : Val} {xs : List Val} : Wire p x → WireList ps xs → WireList (p ++ ps) (x :: xs)
end

mutual
theorem decItem_wire : ∀ (f : Nat) {bs : Bytes} {v : Val} {r : Bytes}, decItem f bs = some (v, r) → AllBytes bs →
    ∃ p, bs = p ++ r ∧ Wire p v
  | 0, _, _, _, h, _ => by simp [decItem] at h
  | f+1, bs, v, r, h, hab => by
    simp only [decItem] at h
    split at h
    · simp at h
    · rename_i code len r0 hh
      obtain ⟨fb, lb, rfl, hr0, hd⟩ := decHeader_some hh hab
      split at h
      · rename_i hc
        subst hc
        split at h
        · simp at h
        · rename_i xs r' hl
          injection h with h; injection h with h1 h2; subst h1; subst h2
          obtain ⟨ps, rfl, hn, hw⟩ := decList_wire f hl hr0
          exact ⟨fb :: (lb ++ ps), by simp, .list (hn ▸ hd) hw⟩
      · split at h
        · simp at h
        · rename_i t hof
          have := ofCode_some hof
          subst this
          split at h
          · simp at h
          · rename_i hm
            split at h
            · simp at h
            · rename_i p r' ht
              injection h with h; injection h with h1 h2; subst h1; subst h2
              obtain ⟨rfl, rfl⟩ := takeN_some ht
              exact ⟨fb :: (lb ++ p), by simp, .item hd (by simpa using hm) (AllBytes.append_iff.mp hr0).1 rfl⟩
theorem decList_wire : ∀ (f : Nat) {n : Nat} {bs : Bytes} {xs : List Val} {r : Bytes}, decList f n bs = some (xs, r) → AllBytes bs →
    ∃ ps, bs = ps ++ r ∧ xs.length = n ∧ WireList ps xs
  | _, 0, _, _, _, h, _ => by
    simp only [decList] at h; injection h with h; injection h with h1 h2; subst h1; subst h2
    exact ⟨[], rfl, rfl, .nil⟩
  | 0, _+1, _, _, _, h, _ => by simp [decList] at h
  | f+1, n+1, bs, xs, r, h, hab => by
    simp only [decList] at h
    split at h
    · simp at h
    · rename_i x r1 h1
      split at h
      · simp at h
      · rename_i ys r2 h2
        injection h with h; injection h with h3 h4; subst h3; subst h4
        obtain ⟨p, rfl, hw⟩ := decItem_wire f h1 hab
        obtain ⟨ps, rfl, hn, hws⟩ := decList_wire f h2 (AllBytes.append_iff.mp hab).2
        exact ⟨p ++ ps, by simp, by simp [hn], .cons hw hws⟩
end

mutual
theorem Wire.size_lt {p : Bytes} {v : Val} : Wire p v → v.size < p.length
  | .item hd _ _ _ => by
    have := hd.count; have := hd.pos
    simp only [Val.size, List.length_cons, List.length_append]; omega
  | .list hd hl => by
    have := hd.count; have := hd.pos; have := hl.size_le
    simp only [Val.size, List.length_cons, List.length_append]; omega
theorem WireList.size_le {ps : Bytes} {xs : List Val} : WireList ps xs → sizeList xs ≤ ps.length
  | .nil => Nat.le_refl _
  | .cons h hs => by
    have := h.size_lt; have := hs.size_le
    simp only [sizeList, List.length_append]; omega
end

end SecsModel.Proofs.CodecSpec
