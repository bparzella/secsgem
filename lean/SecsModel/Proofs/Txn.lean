import SecsModel.Model.Txn
/-!
Invariants of `Model.Txn` (C06).  `Fires` lists the enabled steps of `step0` as rules, `inv_runFrom` takes what every rule keeps
along every schedule, and there is one `*_step` lemma per invariant.  `Route` and `Ids` are stated over the fields they read
(not over a `State`), so that their lemmas about one caller's record (`earlyStep`, `lateStep`, `Ids.set`) can be stated without
building states.
-/
namespace SecsModel.Proofs.Txn
open SecsModel SecsModel.Model.Txn

theorem forall_mem_set {α} {P : α → Prop} {l : List α} {d : Nat} {y : α} (h : ∀ x ∈ l, P x) (hy : P y) : ∀ x ∈ l.set d y, P x :=
  fun x hx => (List.mem_or_eq_of_mem_set hx).elim (h x) (· ▸ hy)

theorem forall_mem_concat {α} {P : α → Prop} {l : List α} {y : α} (h : ∀ x ∈ l, P x) (hy : P y) : ∀ x ∈ l ++ [y], P x :=
  fun x hx => (List.mem_append.mp hx).elim (h x) fun hx => List.mem_singleton.mp hx ▸ hy

theorem countP_set_le {α} (p : α → Bool) {l : List α} {d : Nat} {x : α} (y : α) (h : l[d]? = some x) (hp : p y = true → p x = true) :
    (l.set d y).countP p ≤ l.countP p := by
  obtain ⟨hlt, rfl⟩ := List.getElem?_eq_some_iff.mp h
  rw [List.countP_set hlt]
  by_cases hy : p y = true
  · have := List.countP_pos_iff.mpr ⟨_, List.getElem_mem hlt, hp hy⟩
    rw [if_pos (hp hy), if_pos hy]; omega
  · rw [if_neg hy]; omega

theorem getNextSystemCounter_spec (c : Int) (h0 : 0 ≤ c) (h1 : c < 4294967296) :
    Gen.Misc.getNextSystemCounter c = .ok ((c + 1) % 4294967296, (c + 1) % 4294967296) := by
  have e : ((2 : Int) ^ ((32 : Int)).toNat) = 4294967296 := by decide
  simp only [Gen.Misc.getNextSystemCounter, e]
  by_cases hc : c + 1 > 4294967296 - 1
  · have : c = 4294967295 := by omega
    subst this; simp
  · simp; omega

/-- the enabled steps of `step0`, one rule per outcome: its guards and the resulting state.  The guard on the thread's own record comes last, so
that `case send hpc | fire hpc` names it alone -/
inductive Fires (cfg : Cfg) (s : State) : Step → State → Prop
  | alloc {c id cnt} :
      cfg.atomic = true → next s.counter = some (id, cnt) → (s.callers c).pc = .idle →
      Fires cfg s (.alloc c)
        { s with
          counter := cnt
          allocs := s.allocs + 1
          callers := upd s.callers c { s.callers c with pc := .allocated, id := id, allocAt := s.allocs + 1 } }
  | allocRmw {c id cnt} :
      cfg.atomic = false → next s.counter = some (id, cnt) → (s.callers c).pc = .idle →
      Fires cfg s (.allocRmw c)
        { s with
          counter := cnt
          allocs := s.allocs + 1
          callers := upd s.callers c { s.callers c with pc := .mid, allocAt := s.allocs + 1 } }
  | allocRet {c} :
      cfg.atomic = false → (s.callers c).pc = .mid →
      Fires cfg s (.allocRet c)
        { s with callers := upd s.callers c { s.callers c with pc := .allocated, id := s.counter } }
  | register {c} :
      (s.callers c).pc = .allocated →
      Fires cfg s (.register c)
        { s with
          reg := upd s.reg (s.callers c).id (some c)
          q := upd s.q c []
          callers := upd s.callers c { s.callers c with pc := .registered } }
  | send {c} :
      s.up = true → (s.callers c).pc = .registered →
      Fires cfg s (.send c)
        { s with
          wire := s.wire ++ [(s.callers c).id]
          callers := upd s.callers c { s.callers c with pc := .sent } }
  | sendFail {c} :
      s.up = true → (s.callers c).pc = .registered →
      Fires cfg s (.sendFail c)
        { s with callers := upd s.callers c { s.callers c with pc := .got, result := none } }
  | fire {c} :
      s.up = true → (s.callers c).pc = .allocated →
      Fires cfg s (.fire c)
        { s with
          wire := s.wire ++ [(s.callers c).id]
          callers := upd s.callers c { s.callers c with pc := .done } }
  | recv {c m rest} :
      s.q c = m :: rest → (s.callers c).pc = .sent →
      Fires cfg s (.recv c)
        { s with
          q := upd s.q c rest
          callers := upd s.callers c { s.callers c with pc := .got, result := some m } }
  | timeout {c} :
      s.q c = [] → (s.callers c).pc = .sent →
      Fires cfg s (.timeout c)
        { s with callers := upd s.callers c { s.callers c with pc := .got, result := none } }
  | unregister {c o} :
      s.reg (s.callers c).id = some o → (s.callers c).pc = .got →
      Fires cfg s (.unregister c)
        { s with
          reg := upd s.reg (s.callers c).id none
          callers := upd s.callers c { s.callers c with pc := .done } }
  | unregisterErr {c} :
      s.reg (s.callers c).id = none → (s.callers c).pc = .got →
      Fires cfg s (.unregister c)
        { s with callers := upd s.callers c { s.callers c with pc := .done, keyErr := true, result := none } }
  | rxPart {n} :
      s.up = true → 0 < n →
      Fires cfg s (.rxPart n) { s with stale := s.stale + n }
  | rx {m} :
      s.up = true →
      Fires cfg s (.rx m)
        { s with
          inbox := s.inbox ++ [m]
          arrived := s.arrived ++ [m]
          stale := 0 }
  | pop {d dd m rest} :
      s.inbox = m :: rest → dd.stopped = false → s.disp[d]? = some dd → dd.cur = none →
      Fires cfg s (.pop d)
        { s with
          inbox := rest
          popped := s.popped ++ [m]
          disp := s.disp.set d { dd with cur := some (m, false) } }
  | test {d dd m o} :
      dd.routing = false → (if cfg.replyOnly && m.primary then none else s.reg m.sys) = some o →
      s.disp[d]? = some dd → dd.cur = some (m, false) →
      Fires cfg s (.handle d)
        { s with disp := s.disp.set d { dd with routing := true } }
  | deliver {d dd m} :
      dd.routing = false → (if cfg.replyOnly && m.primary then none else s.reg m.sys) = none →
      s.disp[d]? = some dd → dd.cur = some (m, false) →
      Fires cfg s (.handle d)
        { s with
          delivered := s.delivered ++ [m]
          handled := s.handled ++ [(m, false)]
          disp := s.disp.set d { dd with cur := some (m, true) } }
  | put {d dd m c} :
      dd.routing = true → s.reg m.sys = some c → s.disp[d]? = some dd → dd.cur = some (m, false) →
      Fires cfg s (.put d)
        { s with
          q := upd s.q c (s.q c ++ [m])
          handled := s.handled ++ [(m, true)]
          disp := s.disp.set d { dd with cur := none, routing := false } }
  | putLost {d dd m} :
      dd.routing = true → s.reg m.sys = none → s.disp[d]? = some dd → dd.cur = some (m, false) →
      Fires cfg s (.put d)
        { s with
          lost := s.lost ++ [m]
          handled := s.handled ++ [(m, true)]
          disp := s.disp.set d { dd with cur := none, routing := false } }
  | finish {d dd m} :
      s.disp[d]? = some dd → dd.cur = some (m, true) →
      Fires cfg s (.finish d)
        { s with disp := s.disp.set d { dd with cur := none } }
  | linkDown :
      s.up = true →
      Fires cfg s .linkDown
        { s with
          up := false
          stale := 0
          disp := if cfg.patched then s.disp.map (fun d => { d with stopped := true }) else s.disp }
  | linkUp :
      s.up = false →
      Fires cfg s .linkUp
        { s with
          up := true
          disp := s.disp ++ [{}]
          ups := s.ups + 1 }

variable {cfg : Cfg} {s s' : State} {i : Step}

theorem fires_of_step0 (h : step0 cfg s i = some s') : Fires cfg s i s' := by
  cases i <;> simp only [step0] at h
  case linkDown => split at h <;> cases h; exact .linkDown ‹_›
  -- `assumption` fixes the rule's arguments that the resulting state does not show (`m` of `test`, `id` of `allocRmw`)
  all_goals ((repeat' (split at h)) <;> cases h <;> constructor <;> first | assumption | simp_all)

theorem step_fires (h : (sys cfg).step s i = some s') : ∃ s1, Fires cfg s i s1 ∧ s' = mark s1 := by
  cases h0 : step0 cfg s i with
  | none => simp [sys, step, h0] at h
  | some s1 => exact ⟨s1, fires_of_step0 h0, by simpa [sys, step, h0] using h.symm⟩

theorem inv_runFrom {cfg : Cfg} {Inv : State → Prop} (hs : ∀ {s i s'}, Inv s → Fires cfg s i s' → Inv (mark s'))
    {sched : List Step} {s s' : State} (h : Inv s) (hr : (sys cfg).runFrom s sched = some s') : Inv s' :=
  Sys.inv_from (sys cfg) Inv (fun s i s' hi h => by
    obtain ⟨s1, h1, rfl⟩ := step_fires h
    exact hs hi h1) sched s s' h hr

theorem inv_run {cfg : Cfg} {Inv : State → Prop} (h0 : Inv (init cfg))
    (hs : ∀ {s i s'}, Inv s → Fires cfg s i s' → Inv (mark s')) {sched : List Step} {s : State} (hr : (sys cfg).run sched = some s) : Inv s :=
  inv_runFrom hs h0 hr

theorem everTwo_fires (hs : Fires cfg s i s') : s'.everTwo = s.everTwo := by
  cases hs <;> rfl

theorem everTwo_mark : (mark s).everTwo = false ↔ s.everTwo = false ∧ active s ≤ 1 := by
  simp [mark]

/-- `_get_queue_for_system` has not run yet -/
def early : Pc → Bool
  | .idle | .mid | .allocated => true
  | _ => false

structure CallerOk (k : Caller) (q : List Msg) : Prop where
  qSys : ∀ m ∈ q, m.sys = k.id
  res : ∀ m, k.result = some m → m.sys = k.id
  fresh : early k.pc = true → q = [] ∧ k.result = none

/-- whatever refers to caller `c` (a `reg` entry, a message in its queue, its result) carries `c`'s id (`owner`, `qSys`, `res`).  It is
inductive because the id is only written before `register` (`alloc`, `allocRet`), and until then nothing refers to the caller (`fresh`,
and the `early … = false` of `owner`) -/
structure Route (reg : Int → Option Nat) (callers : Nat → Caller) (q : Nat → List Msg) : Prop where
  owner : ∀ k c, reg k = some c → (callers c).id = k ∧ early (callers c).pc = false
  ok : ∀ c, CallerOk (callers c) (q c)

def RouteInv (s : State) : Prop := Route s.reg s.callers s.q

theorem route_init (cfg : Cfg) : RouteInv (init cfg) := ⟨nofun, fun _ => ⟨nofun, nofun, fun _ => ⟨rfl, rfl⟩⟩⟩

theorem Route.earlyStep {reg callers q} (h : Route reg callers q) (c : Nat) {k' : Caller} (he : early (callers c).pc = true)
    (hr : k'.result = (callers c).result) : Route reg (upd callers c k') q := by
  obtain ⟨h1, h2⟩ := h
  obtain ⟨hq, hn⟩ := (h2 c).fresh he
  constructor <;> grind [upd, CallerOk]

theorem Route.lateStep {reg reg' callers q q'} (h : Route reg callers q) (c : Nat) {k' : Caller} (hid : k'.id = (callers c).id)
    (hpc : early k'.pc = false)
    (hreg : reg' = reg ∨ reg' = upd reg (callers c).id none ∨ reg' = upd reg (callers c).id (some c))
    (hq : ∀ c', c' ≠ c → q' c' = q c') (hok : CallerOk k' (q' c)) : Route reg' (upd callers c k') q' := by
  -- `owner` survives for `c` by `hid`, `hpc` (also for the new entry `reg' id = some c`), for the others because only `c`'s key changes
  obtain ⟨h1, h2⟩ := h
  rcases hreg with rfl | rfl | rfl <;> constructor <;> grind [upd]

theorem route_step (h : RouteInv s) (hs : Fires cfg s i s') : RouteInv (mark s') := by
  cases hs <;> dsimp only [RouteInv, mark]
  case alloc hpc | allocRmw hpc | allocRet hpc => exact h.earlyStep _ (by rw [hpc]; rfl) rfl
  case send c _ _ | fire c _ _ => exact h.lateStep c rfl rfl (.inl rfl) (fun _ _ => rfl) ⟨(h.ok c).qSys, (h.ok c).res, nofun⟩
  case sendFail c _ _ | timeout c _ _ | unregisterErr c _ _ =>
    exact h.lateStep c rfl rfl (.inl rfl) (fun _ _ => rfl) ⟨(h.ok c).qSys, nofun, nofun⟩
  case unregister c _ _ _ => exact h.lateStep c rfl rfl (.inr (.inl rfl)) (fun _ _ => rfl) ⟨(h.ok c).qSys, (h.ok c).res, nofun⟩
  case register c hpc =>
    refine h.lateStep c rfl rfl (.inr (.inr rfl)) (fun _ e => upd_other _ _ _ _ e) ?_
    rw [upd_same]
    exact ⟨nofun, by rw [((h.ok c).fresh (by rw [hpc]; rfl)).2]; nofun, nofun⟩
  case recv c m rest hq _ =>
    have hc := h.ok c
    refine h.lateStep c rfl rfl (.inl rfl) (fun _ e => upd_other _ _ _ _ e) ?_
    rw [upd_same]
    have qSys : ∀ x ∈ rest, x.sys = (s.callers c).id := fun x hx => hc.qSys x (hq ▸ .tail _ hx)
    have res : ∀ x, some m = some x → x.sys = (s.callers c).id := fun x hx => by cases hx; exact hc.qSys m (hq ▸ .head _)
    exact ⟨qSys, res, nofun⟩
  case put d dd m c _ hr _ _ =>
    -- the message joins the queue of the caller registered under its system bytes
    refine ⟨h.owner, fun c0 => ?_⟩
    by_cases e : c0 = c
    · subst e
      have hc := h.ok c0
      have ho := h.owner _ _ hr
      rw [upd_same]
      exact ⟨forall_mem_concat hc.qSys ho.1.symm, hc.res, fun he => by rw [ho.2] at he; cases he⟩
    · rw [upd_other _ _ _ _ e]; exact h.ok c0
  -- the invariant reads `reg`, `callers`, `q` only: every rule that leaves them alone keeps it as it is (so in every `*_step` below)
  all_goals exact h

/-- with the atomic allocator: the counter is `c0` plus the number of allocations (mod 2³²); every caller holding an id got the
value of *its* allocation; allocations are numbered apart -/
structure Ids (c0 counter : Int) (allocs : Nat) (callers : Nat → Caller) : Prop where
  cnt : counter = (c0 + (allocs : Int)) % 4294967296
  own : ∀ c, (callers c).pc.hasId = true →
    (callers c).allocAt ≤ allocs ∧ (callers c).id = (c0 + ((callers c).allocAt : Int)) % 4294967296
  uniq : ∀ c1 c2, c1 ≠ c2 → (callers c1).pc.hasId = true → (callers c2).pc.hasId = true → (callers c1).allocAt ≠ (callers c2).allocAt

def IdInv (cfg : Cfg) (s : State) : Prop := Ids cfg.c0 s.counter s.allocs s.callers

theorem id_init (cfg : Cfg) (h0 : 0 ≤ cfg.c0) (h1 : cfg.c0 < 4294967296) : IdInv cfg (init cfg) :=
  ⟨by simp only [init]; omega, nofun, fun _ _ _ => nofun⟩

theorem Ids.set {c0 counter counter' allocs allocs' callers} (h : Ids c0 counter allocs callers) (c : Nat) {k' : Caller}
    (ha : allocs ≤ allocs') (hcnt : counter' = (c0 + (allocs' : Int)) % 4294967296)
    (hk : k'.pc.hasId = true →
      ((callers c).pc.hasId = true ∧ k'.allocAt = (callers c).allocAt ∧ k'.id = (callers c).id) ∨
      (allocs < k'.allocAt ∧ k'.allocAt ≤ allocs' ∧ k'.id = (c0 + (k'.allocAt : Int)) % 4294967296)) :
    Ids c0 counter' allocs' (upd callers c k') := by
  -- the record put in collides with no other holder: a number made since is above every earlier one (`own`), an inherited one was
  -- apart from the others already (`uniq`)
  have apart : ∀ c2, c2 ≠ c → (callers c2).pc.hasId = true → k'.pc.hasId = true → k'.allocAt ≠ (callers c2).allocAt := by
    intro c2 e h2 hk'
    rcases hk hk' with ⟨held, sameAt, _⟩ | ⟨fresh, _⟩
    · rw [sameAt]; exact h.uniq c c2 (Ne.symm e) held h2
    · have := (h.own c2 h2).1; omega
  refine ⟨hcnt, fun c' hc => ?_, fun c1 c2 hne h1 h2 => ?_⟩
  · by_cases e : c' = c
    · subst e; rw [upd_same] at hc ⊢
      rcases hk hc with ⟨held, sameAt, sameId⟩ | ⟨_, le, idEq⟩
      · rw [sameAt, sameId]; exact ⟨Nat.le_trans (h.own c' held).1 ha, (h.own c' held).2⟩
      · exact ⟨le, idEq⟩
    · rw [upd_other _ _ _ _ e] at hc ⊢; exact ⟨Nat.le_trans (h.own c' hc).1 ha, (h.own c' hc).2⟩
  · by_cases e1 : c1 = c
    · subst e1; rw [upd_same] at h1 ⊢; rw [upd_other _ _ _ _ (Ne.symm hne)] at h2 ⊢; exact apart c2 (Ne.symm hne) h2 h1
    · rw [upd_other _ _ _ _ e1] at h1 ⊢
      by_cases e2 : c2 = c
      · subst e2; rw [upd_same] at h2 ⊢; exact (apart c1 e1 h1 h2).symm
      · rw [upd_other _ _ _ _ e2] at h2 ⊢; exact h.uniq c1 c2 hne h1 h2

theorem id_step (hat : cfg.atomic = true) (h : IdInv cfg s) (hs : Fires cfg s i s') : IdInv cfg (mark s') := by
  cases hs <;> dsimp only [IdInv, mark]
  case allocRmw hf _ _ | allocRet hf _ => rw [hat] at hf; cases hf
  case register hpc | send hpc | sendFail hpc | fire hpc | recv hpc | timeout hpc | unregister hpc | unregisterErr hpc =>
    exact h.set _ (Nat.le_refl _) h.cnt fun _ => .inl ⟨by rw [hpc]; rfl, rfl, rfl⟩
  case alloc hn _ =>
    have hc0 : 0 ≤ s.counter ∧ s.counter < 4294967296 := by rw [h.cnt]; omega
    rw [next, getNextSystemCounter_spec s.counter hc0.1 hc0.2] at hn
    cases hn
    have cnt' : (s.counter + 1) % 4294967296 = (cfg.c0 + ((s.allocs + 1 : Nat) : Int)) % 4294967296 := by rw [h.cnt]; omega
    exact h.set _ (Nat.le_succ _) cnt' fun _ => .inr ⟨Nat.lt_succ_self _, Nat.le_refl _, cnt'⟩
  all_goals exact h

structure AcctInv (s : State) : Prop where
  arr : s.arrived = s.popped ++ s.inbox
  del : s.delivered = (s.handled.filter (fun e => !e.2)).map (·.1)

theorem acct_init (cfg : Cfg) : AcctInv (init cfg) := ⟨rfl, rfl⟩

theorem acct_step (h : AcctInv s) (hs : Fires cfg s i s') : AcctInv (mark s') := by
  obtain ⟨h1, h2⟩ := h
  cases hs
  case rx => exact ⟨by dsimp only [mark]; rw [h1, List.append_assoc], h2⟩
  case pop hin _ _ _ => exact ⟨by dsimp only [mark]; rw [h1, hin, List.append_assoc]; rfl, h2⟩
  case deliver | put | putLost => exact ⟨h1, by simp [mark, h2]⟩
  all_goals exact ⟨h1, h2⟩

theorem unstarted_of_inactive {l : List Disp} (h : l.countP Disp.active = 0) : l.filterMap Disp.unstarted = [] :=
  List.filterMap_eq_nil_iff.mpr fun z hz => by
    have := List.countP_eq_zero.mp h z hz
    cases hc : z.cur with
    | none => simp [Disp.unstarted, hc]
    | some v => simp [Disp.active, hc] at this

theorem held_single {l : List Disp} {d : Nat} {x : Disp} (h : l[d]? = some x) (hc : l.countP Disp.active ≤ 1) (hx : x.active = true) :
    l.filterMap Disp.unstarted = (Disp.unstarted x).toList ∧
      ∀ y, (l.set d y).filterMap Disp.unstarted = (Disp.unstarted y).toList := by
  obtain ⟨hlt, hd⟩ := List.getElem?_eq_some_iff.mp h
  have e : l.take d ++ x :: l.drop (d + 1) = l := by rw [← hd, List.getElem_cons_drop, List.take_append_drop]
  rw [← e, List.countP_append, List.countP_cons, if_pos hx] at hc
  have key : ∀ z, (l.take d ++ z :: l.drop (d + 1)).filterMap Disp.unstarted = (Disp.unstarted z).toList := fun z => by
    rw [List.filterMap_append, List.filterMap_cons, unstarted_of_inactive (l := l.take d) (by omega),
      unstarted_of_inactive (l := l.drop (d + 1)) (by omega)]
    cases Disp.unstarted z <;> rfl
  exact ⟨by rw [← e]; exact key x, fun y => by rw [List.set_eq_take_append_cons_drop, if_pos hlt]; exact key y⟩

theorem held_busy_le_active (l : List Disp) :
    (l.filterMap Disp.unstarted).length + l.countP Disp.inHandler ≤ l.countP Disp.active := by
  induction l with
  | nil => exact Nat.le_refl _
  | cons d l ih =>
    rcases d with ⟨st, _ | ⟨m, _ | _⟩, rt⟩ <;>
      simp [List.filterMap_cons, List.countP_cons, Disp.unstarted, Disp.inHandler, Disp.active] <;> omega

/-- while at most one dispatcher thread has ever been active: the messages taken from the dispatch queue are exactly the handled ones,
in that order, followed by the one (if any) that is held and not yet handled -/
def OrderInv (s : State) : Prop :=
  s.everTwo = false → active s ≤ 1 ∧ s.popped = s.handled.map (·.1) ++ held s

theorem order_init (cfg : Cfg) : OrderInv (init cfg) := fun _ => ⟨Nat.zero_le _, rfl⟩

theorem order_step (h : OrderInv s) (hs : Fires cfg s i s') : OrderInv (mark s') := by
  intro hev
  obtain ⟨hev, ha'⟩ := everTwo_mark.mp hev
  obtain ⟨ha, hp⟩ := h ((everTwo_fires hs).symm.trans hev)
  refine ⟨ha', ?_⟩
  show s'.popped = s'.handled.map (·.1) ++ held s'
  clear hev ha'
  simp only [active, held] at ha hp ⊢
  cases hs <;> dsimp only
  case pop hdd hcur | test hdd hcur | deliver hdd hcur | put hdd hcur | putLost hdd hcur | finish hdd hcur =>
    obtain ⟨hx, hy⟩ := held_single hdd ha (by simp [Disp.active, *])
    rw [hy, hp, hx]; simp [Disp.unstarted, hcur]
  case linkDown =>
    split
    · rw [List.filterMap_map]; exact hp
    · exact hp
  case linkUp =>
    rw [List.filterMap_append, show List.filterMap Disp.unstarted [({} : Disp)] = [] from rfl, List.append_nil]; exact hp
  all_goals exact hp

/-- every `start()` adds one dispatcher thread and nothing ever removes one from the list; so with at most one `start()` never two are
active (`active ≤ length = ups ≤ 1`) -/
def LenInv (s : State) : Prop := s.disp.length = s.ups ∧ (s.ups ≤ 1 → s.everTwo = false)

theorem len_init (cfg : Cfg) : LenInv (init cfg) := ⟨rfl, fun _ => rfl⟩

theorem len_step (h : LenInv s) (hs : Fires cfg s i s') : LenInv (mark s') := by
  obtain ⟨hl, he⟩ := h
  have key : s'.disp.length = s'.ups ∧ s.ups ≤ s'.ups := by
    cases hs <;> dsimp only
    case pop | test | deliver | put | putLost | finish => exact ⟨by rw [List.length_set]; exact hl, Nat.le_refl _⟩
    case linkDown =>
      refine ⟨?_, Nat.le_refl _⟩
      split
      · rw [List.length_map]; exact hl
      · exact hl
    case linkUp => exact ⟨by rw [List.length_append, hl]; rfl, Nat.le_succ _⟩
    all_goals exact ⟨hl, Nat.le_refl _⟩
  refine ⟨key.1, fun hu => ?_⟩
  have h2 : active s' ≤ s'.disp.length := List.countP_le_length
  exact everTwo_mark.mpr ⟨(everTwo_fires hs).trans (he (Nat.le_trans key.2 hu)), by rw [key.1] at h2; exact Nat.le_trans h2 hu⟩

/-- the link is only dropped while no dispatcher thread holds a message -/
def quietDown (s : State) : Step → Bool
  | .linkDown => s.disp.all (fun d => d.cur.isNone)
  | _ => true

/-- `one` alone is not inductive: `linkUp` adds an active thread, so while the link is down none may be active (`down`); and `linkDown`
(which stops every thread) reaches that only if no thread still holds a message, which is what `quietDown` assumes -/
structure PatchInv (s : State) : Prop where
  down : s.up = false → active s = 0
  one : active s ≤ 1
  never : s.everTwo = false

theorem patch_init (cfg : Cfg) : PatchInv (init cfg) := ⟨fun _ => rfl, Nat.zero_le _, rfl⟩

theorem countP_stop_all (l : List Disp) (h : l.all (fun d => d.cur.isNone) = true) :
    (l.map (fun d => { d with stopped := true })).countP Disp.active = 0 := by
  rw [List.countP_eq_zero]
  intro x hx
  obtain ⟨y, hy, rfl⟩ := List.mem_map.mp hx
  have := List.all_eq_true.mp h y hy
  simpa [Disp.active] using this

theorem patch_step (hp : cfg.patched = true) (h : PatchInv s) (hq : quietDown s i = true)
    (hs : Fires cfg s i s') : PatchInv (mark s') := by
  obtain ⟨hd, ho, hn⟩ := h
  have key : (s'.up = false → active s' = 0) ∧ active s' ≤ 1 := by
    simp only [active] at hd ho ⊢
    -- no dispatcher rule makes an inactive thread active
    have le : ∀ {l' : List Disp}, l'.countP Disp.active ≤ s.disp.countP Disp.active →
        (s.up = false → l'.countP Disp.active = 0) ∧ l'.countP Disp.active ≤ 1 :=
      fun hle => ⟨fun hu => by have := hd hu; omega, by omega⟩
    cases hs <;> dsimp only
    case pop hdd _ | test hdd _ | deliver hdd _ | put hdd _ | putLost hdd _ | finish hdd _ =>
      exact le (countP_set_le _ _ hdd fun _ => by simp [Disp.active, *])
    case linkDown => rw [hp, if_pos rfl, countP_stop_all s.disp hq]; exact ⟨fun _ => rfl, Nat.zero_le _⟩
    case linkUp hu => rw [List.countP_append, hd hu]; exact ⟨nofun, Nat.le_refl _⟩
    all_goals exact ⟨hd, ho⟩
  exact ⟨key.1, key.2, everTwo_mark.mpr ⟨(everTwo_fires hs).trans hn, key.2⟩⟩

def FrameInv (s : State) : Prop := s.up = false → s.stale = 0

theorem frame_init (cfg : Cfg) : FrameInv (init cfg) := fun _ => rfl

theorem frame_step (h : FrameInv s) (hs : Fires cfg s i s') : FrameInv (mark s') := by
  cases hs <;> dsimp only [FrameInv, mark]
  case rxPart hu _ => rw [hu]; nofun
  case rx | linkDown => exact fun _ => rfl
  case linkUp => nofun
  all_goals exact h

/-- a caller that held the system bytes `k` has left `send_and_waitfor_response` -/
def Ended (s : State) (k : Int) : Prop := ∃ c, (s.callers c).pc = .done ∧ (s.callers c).id = k

/-- a dispatcher between `handle` (the test) and `put` holds a message whose system bytes are registered or `Ended`; a message is lost only
in the second case; with reply-only routing no primary gets there -/
structure LossInv (cfg : Cfg) (s : State) : Prop where
  pend : ∀ d ∈ s.disp, d.routing = true → ∃ m, d.cur = some (m, false) ∧
    ((∃ c, s.reg m.sys = some c) ∨ Ended s m.sys) ∧ (cfg.replyOnly = true → m.primary = false)
  lostDone : ∀ m ∈ s.lost, Ended s m.sys ∧ (cfg.replyOnly = true → m.primary = false)
  prim : cfg.replyOnly = true → ∀ e ∈ s.handled, e.1.primary = true → e.2 = false

theorem loss_init (cfg : Cfg) : LossInv cfg (init cfg) := ⟨nofun, nofun, fun _ => nofun⟩

/-- steps that leave the dispatcher list, the lost list and the handled log alone: enough that registered/ended keys stay so -/
theorem loss_frame (cfg : Cfg) (s s' : State) (h : LossInv cfg s) (hd : s'.disp = s.disp) (hl : s'.lost = s.lost) (hh : s'.handled = s.handled)
    (hk : ∀ k, ((∃ c, s.reg k = some c) ∨ Ended s k) → ((∃ c, s'.reg k = some c) ∨ Ended s' k))
    (he : ∀ k, Ended s k → Ended s' k) : LossInv cfg s' := by
  obtain ⟨h1, h2, h3⟩ := h
  refine ⟨?_, ?_, by rw [hh]; exact h3⟩
  · intro d hdm hrt
    rw [hd] at hdm
    obtain ⟨m, hc, hr, hp⟩ := h1 d hdm hrt
    exact ⟨m, hc, hk _ hr, hp⟩
  · intro m hm
    rw [hl] at hm
    exact ⟨he _ (h2 m hm).1, (h2 m hm).2⟩

/-- a caller that has returned takes no further step -/
theorem ended_fires (hs : Fires cfg s i s') : ∀ k, Ended s k → Ended s' k := by
  intro k ⟨c', h1, h2⟩
  refine ⟨c', ?_⟩
  cases hs <;> dsimp only
  case alloc hpc | allocRmw hpc | allocRet hpc | register hpc | send hpc | sendFail hpc | fire hpc | recv hpc | timeout hpc
      | unregister hpc | unregisterErr hpc =>
    rw [upd_other _ _ _ _ fun e => by rw [e, hpc] at h1; cases h1]; exact ⟨h1, h2⟩
  all_goals exact ⟨h1, h2⟩

theorem reg_fires (hs : Fires cfg s i s') :
    ∀ k, ((∃ c, s.reg k = some c) ∨ Ended s k) → ((∃ c, s'.reg k = some c) ∨ Ended s' k) := by
  intro k hk
  have hE := ended_fires hs k
  cases hs
  case register c hpc =>
    refine hk.imp (fun ⟨c0, hc0⟩ => ?_) hE
    by_cases e : k = (s.callers c).id
    · exact ⟨c, by rw [e]; exact upd_same ..⟩
    · exact ⟨c0, (upd_other _ _ _ _ e).trans hc0⟩
  case unregister c o hr hpc =>
    -- the entry that goes is that of a caller that has now returned
    rcases hk with ⟨c0, hc0⟩ | he
    · by_cases e : k = (s.callers c).id
      · exact .inr ⟨c, by dsimp only; rw [upd_same]; exact ⟨rfl, e.symm⟩⟩
      · exact .inl ⟨c0, (upd_other _ _ _ _ e).trans hc0⟩
    · exact .inr (hE he)
  all_goals exact hk.imp id hE

theorem loss_step (h : LossInv cfg s) (hs : Fires cfg s i s') : LossInv cfg (mark s') := by
  have hE := ended_fires hs
  have hR := reg_fires hs
  -- the dispatcher and link rules (written out) leave `reg` and the callers alone, so `h.pend`, `h.lostDone` serve as they are;
  -- the other rules leave what `loss_frame` asks for alone
  -- both outcomes of `put`: the thread leaves the window, the message is logged as routed; it was no primary under reply-only routing
  have afterPut : ∀ {d dd m}, s.disp[d]? = some dd → dd.cur = some (m, false) → dd.routing = true →
      LossInv cfg { s with handled := s.handled ++ [(m, true)], disp := s.disp.set d { dd with cur := none, routing := false } } ∧
        ((∃ c, s.reg m.sys = some c) ∨ Ended s m.sys) ∧ (cfg.replyOnly = true → m.primary = false) := by
    intro d dd m hdd hcur hrt
    obtain ⟨m0, hc0, regOrEnded, notPrimary⟩ := h.pend dd (List.mem_of_getElem? hdd) hrt
    rw [hcur] at hc0; cases hc0
    have prim := fun hro => forall_mem_concat (h.prim hro) (y := (m, true)) fun hpe => by
      rw [notPrimary hro] at hpe; cases hpe
    exact ⟨⟨forall_mem_set h.pend nofun, h.lostDone, prim⟩, regOrEnded, notPrimary⟩
  cases hs
  case pop hdd hcur | finish hdd hcur =>
    refine ⟨forall_mem_set h.pend fun hrt => ?_, h.lostDone, h.prim⟩
    obtain ⟨m0, hc0, _⟩ := h.pend _ (List.mem_of_getElem? hdd) hrt
    rw [hcur] at hc0; cases hc0
  case test d dd m o _ hreg hdd hcur =>
    refine ⟨forall_mem_set h.pend fun _ => ⟨m, hcur, ?_⟩, h.lostDone, h.prim⟩
    by_cases hp : (cfg.replyOnly && m.primary) = true
    · rw [if_pos hp] at hreg; cases hreg
    · rw [if_neg hp] at hreg
      exact ⟨.inl ⟨o, hreg⟩, fun hro => by simpa [hro] using hp⟩
  case deliver d dd m hnr _ hdd hcur =>
    have pend := forall_mem_set h.pend (d := d) (y := { dd with cur := some (m, true) }) fun hrt => by
      rw [show dd.routing = true from hrt] at hnr; cases hnr
    have prim := fun hro => forall_mem_concat (h.prim hro) (y := (m, false)) fun _ => rfl
    exact ⟨pend, h.lostDone, prim⟩
  case put hrt _ hdd hcur =>
    obtain ⟨inv, _, _⟩ := afterPut hdd hcur hrt
    exact ⟨inv.pend, inv.lostDone, inv.prim⟩
  case putLost d dd m hrt hnone hdd hcur =>
    obtain ⟨inv, regOrEnded, notPrimary⟩ := afterPut hdd hcur hrt
    have ended : Ended s m.sys := by
      rcases regOrEnded with ⟨c, hc⟩ | he
      · rw [hnone] at hc; cases hc
      · exact he
    exact ⟨inv.pend, forall_mem_concat inv.lostDone ⟨ended, notPrimary⟩, inv.prim⟩
  case linkDown =>
    refine ⟨fun d' hd' hrt => ?_, h.lostDone, h.prim⟩
    dsimp only [mark] at hd'
    split at hd'
    · obtain ⟨d0, hd0, rfl⟩ := List.mem_map.mp hd'
      exact h.pend d0 hd0 hrt
    · exact h.pend d' hd' hrt
  case linkUp => exact ⟨forall_mem_concat h.pend nofun, h.lostDone, h.prim⟩
  all_goals exact loss_frame cfg s _ h rfl rfl rfl hR hE

end SecsModel.Proofs.Txn
