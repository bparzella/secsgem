import SecsModel.Model.PairData
/-!
# Proofs.PairData — two invariants of `Model.PairData.step`, lifted to runs by `run_induction`

Events: received ++ in flight = triggered (`events_step`).  Calls: `ServiceInv` — a request or reply in flight carries system bytes
`Owned` by its request, i.e. not above the counter and belonging to the one outstanding call with them, if any; it needs no uniqueness of
system bytes and survives every step that only loses frames or outstanding calls (`ServiceInv.mono`).
-/
namespace SecsModel.Proofs.PairData
open SecsModel.Model.PairData

variable {σ Req Rsp Ev : Type}

theorem run_induction (ans : σ → Req → σ × Rsp) (upd : σ → σ) {P : St σ Req Rsp Ev → Prop}
    (hstep : ∀ s o, P s → P (step ans upd s o)) : ∀ (ops : List (Op Req Ev)) (s : St σ Req Rsp Ev), P s → P (run ans upd s ops)
  | [], _, h => h
  | o :: ops, s, h => run_induction ans upd hstep ops _ (hstep s o h)

theorem eventsInFlight_append (a b : List (Frame Req Rsp Ev)) :
    eventsInFlight (a ++ b) = eventsInFlight a ++ eventsInFlight b := by
  simp [eventsInFlight, List.filterMap_append]

theorem events_step (ans : σ → Req → σ × Rsp) (upd : σ → σ) (s : St σ Req Rsp Ev) (o : Op Req Ev)
    (h : s.received ++ eventsInFlight s.eh = s.triggered) :
    (step ans upd s o).received ++ eventsInFlight (step ans upd s o).eh = (step ans upd s o).triggered := by
  cases o with
  | call r => simpa [step] using h
  | equipRx =>
    cases hhe : s.he with
    | nil => simp only [step, hhe]; exact h
    | cons f rest =>
      cases f with
      | request sys r =>
        simp only [step, hhe, eventsInFlight_append]
        rw [← List.append_assoc, h]
        simp [eventsInFlight]
      | reply sys rsp => simp only [step, hhe]; exact h
      | event sys e => simp only [step, hhe]; exact h
  | trigger e =>
    simp only [step, eventsInFlight_append]
    rw [← List.append_assoc, h]
    simp [eventsInFlight]
  | hostRx =>
    cases heh : s.eh with
    | nil => simp only [step, heh]; rw [heh] at h; exact h
    | cons f rest =>
      rw [heh] at h
      cases f with
      | request sys r => simp only [step, heh]; simpa [eventsInFlight] using h
      | reply sys rsp =>
        simp only [step, heh]
        split <;> simpa [eventsInFlight] using h
      | event sys e =>
        simp only [step, heh]
        simp [eventsInFlight] at h ⊢
        exact h
  | update f => simpa [step] using h

def Owned (s : St σ Req Rsp Ev) (sys : Nat) (r : Req) : Prop :=
  sys ≤ s.counter ∧ ∀ r', (sys, r') ∈ s.outstanding → r' = r

theorem Owned.mono {s s' : St σ Req Rsp Ev} {sys : Nat} {r : Req} (h : Owned s sys r) (h3 : ∀ o ∈ s'.outstanding, o ∈ s.outstanding)
    (hc : s'.counter = s.counter := by rfl) : Owned s' sys r :=
  ⟨hc ▸ h.1, fun r' hr => h.2 r' (h3 _ hr)⟩

/-- the invariant behind "a host call returns what the equipment held when it handled that very request": a request or reply in
flight carries system bytes in use for its request (so it belongs to the one outstanding call with them, if any) -/
structure ServiceInv (ans : σ → Req → σ × Rsp) (s : St σ Req Rsp Ev) : Prop where
  le : ∀ o ∈ s.outstanding, o.1 ≤ s.counter
  req : ∀ sys r, Frame.request sys r ∈ s.he → Owned s sys r
  rpl : ∀ sys rsp, Frame.reply sys rsp ∈ s.eh → ∃ σ0 r, (sys, σ0, r, rsp) ∈ s.handled ∧ (ans σ0 r).2 = rsp ∧ Owned s sys r
  res : ∀ sys r rsp, (sys, r, rsp) ∈ s.results → ∃ σ0, (sys, σ0, r, rsp) ∈ s.handled ∧ (ans σ0 r).2 = rsp

theorem serviceInv_init (ans : σ → Req → σ × Rsp) (e : σ) (c0 : Nat) : ServiceInv ans (init e c0 : St σ Req Rsp Ev) := by
  constructor <;> simp [init]

theorem ServiceInv.mono {ans : σ → Req → σ × Rsp} {s s' : St σ Req Rsp Ev} (h : ServiceInv ans s) (h1 : ∀ f ∈ s'.he, f ∈ s.he)
    (h2 : ∀ sys rsp, Frame.reply sys rsp ∈ s'.eh → Frame.reply sys rsp ∈ s.eh) (h3 : ∀ o ∈ s'.outstanding, o ∈ s.outstanding)
    (hc : s'.counter = s.counter := by rfl) (hh : s'.handled = s.handled := by rfl) (hr : s'.results = s.results := by rfl) :
    ServiceInv ans s' := by
  refine ⟨fun o ho => hc ▸ h.le o (h3 o ho), fun sys r hm => (h.req sys r (h1 _ hm)).mono h3 hc, fun sys rsp hm => ?_,
    hr ▸ hh ▸ h.res⟩
  obtain ⟨σ0, r, hhandled, hans, howned⟩ := h.rpl sys rsp (h2 _ _ hm)
  exact hh ▸ ⟨σ0, r, hhandled, hans, howned.mono h3 hc⟩

theorem serviceInv_step (ans : σ → Req → σ × Rsp) (upd : σ → σ) (s : St σ Req Rsp Ev) (o : Op Req Ev) (h : ServiceInv ans s) :
    ServiceInv ans (step ans upd s o) := by
  cases o with
  | call r =>
    -- the new system bytes are above every one in use
    have old : ∀ {sys r0}, Owned s sys r0 → Owned (step ans upd s (.call r)) sys r0 := by
      intro sys r0 h0
      refine ⟨Nat.le_succ_of_le h0.1, fun r' hr => ?_⟩
      rcases List.mem_append.mp hr with hr | hr
      · exact h0.2 r' hr
      · cases List.mem_singleton.mp hr
        exact absurd h0.1 (Nat.not_succ_le_self _)
    refine ⟨fun o ho => ?_, fun sys r0 hm => ?_, fun sys rsp hm => ?_, h.res⟩
    · rcases List.mem_append.mp ho with ho | ho
      · exact Nat.le_succ_of_le (h.le o ho)
      · cases List.mem_singleton.mp ho; exact Nat.le_refl _
    · rcases List.mem_append.mp hm with hm | hm
      · exact old (h.req sys r0 hm)
      · cases List.mem_singleton.mp hm
        refine ⟨Nat.le_refl _, fun r' hr => ?_⟩
        rcases List.mem_append.mp hr with hr | hr
        · exact absurd (h.le _ hr) (Nat.not_succ_le_self _)
        · cases List.mem_singleton.mp hr; rfl
    · obtain ⟨σ0, r0, hhandled, hans, howned⟩ := h.rpl sys rsp hm
      exact ⟨σ0, r0, hhandled, hans, old howned⟩
  | equipRx =>
    cases hhe : s.he with
    | nil => simp only [step, hhe]; exact h
    | cons f rest =>
      have hrest : ∀ f' ∈ rest, f' ∈ s.he := fun f' hf => hhe ▸ List.mem_cons_of_mem _ hf
      cases f with
      | request sys r =>
        simp only [step, hhe]
        refine ⟨h.le, fun sys' r' hm => h.req sys' r' (hrest _ hm), fun sys' rsp hm => ?_, fun sys' r' rsp hm => ?_⟩
        · rcases List.mem_append.mp hm with hm | hm
          · obtain ⟨σ0, r0, hhandled, hans, howned⟩ := h.rpl sys' rsp hm
            exact ⟨σ0, r0, List.mem_append_left _ hhandled, hans, howned⟩
          · cases List.mem_singleton.mp hm
            exact ⟨s.eq, r, List.mem_append_right _ (List.mem_singleton.mpr rfl), rfl, h.req sys r (hhe ▸ List.mem_cons_self)⟩
        · obtain ⟨σ0, hhandled, hans⟩ := h.res sys' r' rsp hm
          exact ⟨σ0, List.mem_append_left _ hhandled, hans⟩
      | reply sys rsp => simp only [step, hhe]; exact h.mono hrest (fun _ _ => id) (fun _ => id)
      | event sys e => simp only [step, hhe]; exact h.mono hrest (fun _ _ => id) (fun _ => id)
  | trigger e =>
    exact h.mono (fun _ => id) (fun _ _ hm => (List.mem_append.mp hm).resolve_right (by simp)) (fun _ => id)
  | hostRx =>
    cases heh : s.eh with
    | nil => simp only [step, heh]; exact h
    | cons f rest =>
      have hrest : ∀ sys' rsp', Frame.reply sys' rsp' ∈ rest → Frame.reply sys' rsp' ∈ s.eh :=
        fun _ _ hm => heh ▸ List.mem_cons_of_mem _ hm
      cases f with
      | request sys r => simp only [step, heh]; exact h.mono (fun _ => id) hrest (fun _ => id)
      | event sys e => simp only [step, heh]; exact h.mono (fun _ => id) hrest (fun _ => id)
      | reply sys rsp =>
        simp only [step, heh]
        split
        · next x r hf =>
          -- the call found is the one the reply was computed for
          obtain ⟨σ0, r0, hhandled, hans, howned⟩ := h.rpl sys rsp (heh ▸ List.mem_cons_self)
          have hx : x = sys := by simpa using List.find?_some hf
          obtain rfl := howned.2 r (hx ▸ List.mem_of_find?_eq_some hf)
          have hdone : ServiceInv ans { s with eh := rest, outstanding := s.outstanding.filter (fun o => !(o.1 == sys)) } :=
            h.mono (fun _ => id) hrest (fun o ho => (List.mem_filter.mp ho).1)
          refine ⟨hdone.le, hdone.req, hdone.rpl, fun sys' r' rsp' hm => ?_⟩
          rcases List.mem_append.mp hm with hm | hm
          · exact h.res sys' r' rsp' hm
          · cases List.mem_singleton.mp hm
            exact ⟨σ0, hhandled, hans⟩
        · exact h.mono (fun _ => id) hrest (fun _ => id)
  | update f => exact ⟨h.le, h.req, h.rpl, h.res⟩

end SecsModel.Proofs.PairData
