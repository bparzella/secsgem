import SecsModel.Model.Hsms
/-!
# Proofs.HsmsFsm — `Model.Hsms` on the generated tables

The engine table (`Gen.ConnSM`) and the handler bodies (`Gen.HsmsProto`) evaluated, what the building blocks of the handlers do to the session
state and to the outputs, and the accept race by enumeration of its states.  A change of the generated tables breaks these lemmas first.
-/
namespace SecsModel.Proofs.HsmsFsm
open SecsModel SecsModel.Model.Hsms
open SecsModel.Spec.E37 (Conn)

theorem smCall_connect (c : Conn) : smCall c "connect" = if c = .notConnected then .ok .notSelected else .error .wrongSource := by
  cases c <;> rfl
theorem smCall_disconnect (c : Conn) : smCall c "disconnect" = if c = .notConnected then .error .wrongSource else .ok .notConnected := by
  cases c <;> rfl
theorem smCall_select (c : Conn) : smCall c "select" = if c = .notSelected then .ok .selected else .error .wrongSource := by
  cases c <;> rfl
theorem smCall_deselect (c : Conn) : smCall c "deselect" = if c = .selected then .ok .notSelected else .error .wrongSource := by
  cases c <;> rfl

theorem smCall_connect_ns : smCall .notSelected "connect" = .error .wrongSource := smCall_connect _
theorem smCall_connect_sel : smCall .selected "connect" = .error .wrongSource := smCall_connect _
theorem smCall_disconnect_nc : smCall .notConnected "disconnect" = .error .wrongSource := smCall_disconnect _
theorem smCall_select_nc : smCall .notConnected "select" = .error .wrongSource := smCall_select _
theorem smCall_select_ns : smCall .notSelected "select" = .ok .selected := smCall_select _
theorem smCall_select_sel : smCall .selected "select" = .error .wrongSource := smCall_select _
theorem smCall_deselect_nc : smCall .notConnected "deselect" = .error .wrongSource := smCall_deselect _

theorem entersConnected_eq (c c' : Conn) :
    entersConnected c c' = (decide (c = .notConnected) && decide (c' ≠ .notConnected)) := by
  cases c <;> cases c' <;> rfl

theorem leavesConnected_eq (c c' : Conn) :
    leavesConnected c c' = (decide (c ≠ .notConnected) && decide (c' = .notConnected)) := by
  cases c <;> cases c' <;> rfl

theorem entersSelected_eq (c' : Conn) : entersSelected c' = decide (c' = .selected) := by
  cases c' <;> rfl

theorem onConnected_parsed : Gen.HsmsProto.onConnected.map parseStmt = [.setConnected, .sm "connect", .threadStart, .fire "connected"] := by
  decide +kernel
theorem onDisconnecting_parsed : Gen.HsmsProto.onDisconnecting.map parseStmt = [.sendSeparate] := by decide +kernel
theorem onDisconnected_parsed :
    Gen.HsmsProto.onDisconnected.map parseStmt = [.setConnected, .sm "disconnect", .threadStop, .bufferClear, .fire "disconnected"] := by
  decide +kernel

@[simp] theorem closeSys_conn (s : St) (sys : Int) : (closeSys s sys).conn = s.conn := by
  unfold closeSys; simp only; split <;> rfl
@[simp] theorem closeSys_disc (s : St) (sys : Int) : (closeSys s sys).disconnecting = s.disconnecting := by
  unfold closeSys; simp only; split <;> rfl
@[simp] theorem closeSys_active (s : St) (sys : Int) : (closeSys s sys).active = s.active := by
  unfold closeSys; simp only; split <;> rfl

theorem putIfOpen_conn (s : St) (sys : Int) : (putIfOpen s sys).1.conn = s.conn := by
  unfold putIfOpen; split <;> simp
theorem putIfOpen_disc (s : St) (sys : Int) : (putIfOpen s sys).1.disconnecting = s.disconnecting := by
  unfold putIfOpen; split <;> simp
theorem putIfOpen_active (s : St) (sys : Int) : (putIfOpen s sys).1.active = s.active := by
  unfold putIfOpen; split <;> simp

theorem afterTransition_conn (s : St) (c' : Conn) : (afterTransition s c').1.conn = c' := by
  unfold afterTransition
  dsimp only
  split <;> split <;> split <;> rfl

theorem afterTransition_disc (s : St) (c' : Conn) : (afterTransition s c').1.disconnecting = s.disconnecting := by
  unfold afterTransition
  dsimp only
  split <;> split <;> split <;> rfl

/-- nothing is written on a transition out of a connected state: the active side's Select.req goes out on entering CONNECTED only -/
theorem afterTransition_connected (s : St) (c' : Conn) (h : s.conn ≠ .notConnected) :
    afterTransition s c' = ({ (if c' = .notConnected then cancelTimer s else s) with conn := c' },
      if c' = .selected then [.evt "communicating"] else []) := by
  simp only [afterTransition, entersConnected_eq, leavesConnected_eq, entersSelected_eq, h, decide_false, Bool.false_and, Bool.false_eq_true,
    if_false, ne_eq, not_false_eq_true, decide_true, Bool.true_and, decide_eq_true_eq, List.nil_append]

theorem onLinktestTimer_conn (s : St) : (onLinktestTimer s).1.conn = s.conn := by
  unfold onLinktestTimer; split <;> rfl

theorem onLinktestTimer_out (s : St) : (onLinktestTimer s).2 =
    [if s.conn = .notConnected then .txBlocked SType.linktestReq.code (nextCtr s.ctr) 0 0 else .tx SType.linktestReq.code (nextCtr s.ctr) 0 0] := by
  unfold onLinktestTimer; split <;> rfl

theorem withTransition_conn (s : St) (pre : List Out) (m : String) (k : St → St × List Out) (hk : ∀ s', (k s').1.conn = s'.conn) :
    (withTransition s pre m k).1.conn = match smCall s.conn m with | .ok c' => c' | .error _ => s.conn := by
  unfold withTransition
  cases smCall s.conn m <;> simp only [hk, afterTransition_conn]

theorem withTransition_txs (s : St) (pre : List Out) (m : String) (h : s.conn ≠ .notConnected) :
    txs (withTransition s pre m fun s' => (s', [])).2 = txs pre := by
  have happ (a b : List Out) : txs (a ++ b) = txs a ++ txs b := List.filter_append ..
  unfold withTransition
  split
  · show txs (pre ++ (afterTransition s _).2 ++ []) = txs pre
    rw [List.append_nil, happ, afterTransition_connected s _ h]
    dsimp only
    split <;> exact List.append_nil _
  · rw [happ]; exact List.append_nil _

theorem connect_nc (s : St) (h : s.conn = .notConnected) :
    execStmts Gen.HsmsProto.onConnected s [] =
      (if s.active then
        ({ startTimer s with conn := .notSelected, ctr := nextCtr s.ctr,
                             opn := s.opn.filter (fun e => e.1 != nextCtr s.ctr) ++ [(nextCtr s.ctr, .select)] },
          [.tx SType.selectReq.code (nextCtr s.ctr) 0 0, .evt "connected"])
       else ({ startTimer s with conn := .notSelected }, [.evt "connected"])) := by
  unfold execStmts
  rw [onConnected_parsed]
  simp only [execParsed, h, smCall_connect, ↓reduceIte, afterTransition, entersConnected_eq, leavesConnected_eq, entersSelected_eq]
  cases ha : s.active <;> simp [sendReq, Req.stype, startTimer]

theorem step_connect (d : Defects) (s : St) (h : s.conn = .notConnected) :
    step d s .connect = execStmts Gen.HsmsProto.onConnected s [] := if_pos h

theorem closeSeq_connected (s : St) (h : s.conn ≠ .notConnected) :
    closeSeq s = ({ s with conn := .notConnected, disconnecting := false, ctr := nextCtr s.ctr, ltStored := false },
      [.tx SType.separateReq.code (nextCtr s.ctr) 0 0, .evt "disconnected"]) := by
  unfold closeSeq execStmts
  rw [onDisconnecting_parsed, onDisconnected_parsed]
  simp [execParsed, smCall_disconnect, h, afterTransition_connected, cancelTimer]

open Race

def addNew (acc : List RSt) (s : RSt) : List RSt := if acc.contains s then acc else acc ++ [s]

def expand (xs : List RSt) : List RSt := xs.foldl (fun acc s => addNew (addNew acc (stepA s)) (stepD s)) xs

def reachN : Nat → List RSt → List RSt
  | 0, xs => xs
  | n + 1, xs => reachN n (expand xs)

/-- The states a breadth-first search reaches from the initial state of the generated `_on_connected` order, accepting thread against dispatcher.
That no schedule leaves them rests on the closedness conjunct of `reachable_checked`, not on the number of rounds (6 would do: four statements and
two dispatcher steps). -/
def reachable : List RSt := reachN 8 [init Gen.HsmsProto.onConnected]

theorem reachable_checked :
    init Gen.HsmsProto.onConnected ∈ reachable
    ∧ (∀ s ∈ reachable, stepA s ∈ reachable ∧ stepD s ∈ reachable)
    ∧ (∀ s ∈ reachable, isFinal s = true → s.rspSent = true → s.conn = .selected) := by
  decide +kernel

theorem run_reachable (sched : List Bool) (s : RSt) (h : s ∈ reachable) : runSched s sched ∈ reachable := by
  induction sched generalizing s with
  | nil => exact h
  | cons b bs ih =>
    have ⟨_, hclosed, _⟩ := reachable_checked
    cases b
    · exact ih _ (hclosed s h).2
    · exact ih _ (hclosed s h).1

end SecsModel.Proofs.HsmsFsm
