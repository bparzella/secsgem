import SecsModel.Model.FnCodec
import SecsModel.Proofs.CodecVar
/-! `Dynamic._match_type` and `set`/`get` on plain scalars (`Model.Fn.pass1`, `pass2`, `matchType`, `setGet`). -/
namespace SecsModel.Proofs.FnCodecMatch
open SecsModel SecsModel.Spec.E5 SecsModel.Model.Var SecsModel.Model.Fn SecsModel.Proofs.CodecVar

theorem pass1_found (c : Int) (p : PyVal) (gs : List Tag) (g : Tag) (h : pass1 c p gs = .found g) :
    ∃ t, g = .leaf t ∧ .leaf t ∈ gs ∧ prefersPy (.leaf t) p = true ∧ supportsScalar t c p = some true := by
  induction gs with
  | nil => cases h
  | cons g' gs ih =>
    have later (h : pass1 c p gs = .found g) :
        ∃ t, g = .leaf t ∧ .leaf t ∈ g' :: gs ∧ prefersPy (.leaf t) p = true ∧ supportsScalar t c p = some true := by
      obtain ⟨t, hg, hmem, hpref, hsup⟩ := ih h
      exact ⟨t, hg, .tail _ hmem, hpref, hsup⟩
    cases g' with
    | arr =>
      rw [pass1] at h
      split at h
      · cases h
      · exact later h
    | leaf t =>
      rw [pass1] at h
      split at h
      next hpref =>
        split at h
        · cases h
        next hsup => cases h; exact ⟨t, rfl, .head _, hpref, hsup⟩
        · exact later h
      · exact later h

theorem pass2_found (c : Int) (p : PyVal) (gs : List Tag) (g : Tag) (h : pass2 c p gs = .found g) :
    ∃ t, g = .leaf t ∧ .leaf t ∈ gs ∧ supportsScalar t c p = some true := by
  induction gs with
  | nil => cases h
  | cons g' gs ih =>
    cases g' with
    | arr => cases h
    | leaf t =>
      rw [pass2] at h
      split at h
      · cases h
      next hsup => cases h; exact ⟨t, rfl, .head _, hsup⟩
      · obtain ⟨t', hg, hmem, hsup⟩ := ih h
        exact ⟨t', hg, .tail _ hmem, hsup⟩

theorem matchType_found (ts : List Tag) (c : Int) (p : PyVal) (g : Tag) (h : matchType ts c p = .found g) :
    ∃ t, g = .leaf t ∧ .leaf t ∈ (if ts.isEmpty then defaultOrder else ts) ∧ supportsScalar t c p = some true := by
  simp only [matchType] at h
  split at h
  · exact pass2_found c p _ g h
  · obtain ⟨t, hg, hmem, _, hsup⟩ := pass1_found c p _ g h
    exact ⟨t, hg, hmem, hsup⟩

def skipped1 (c : Int) (p : PyVal) (g : Tag) : Prop :=
  prefersPy g p = false ∨ ∃ t, g = .leaf t ∧ supportsScalar t c p = some false

theorem pass1_first_fit (c : Int) (p : PyVal) (t : Ty) (post : List Tag) (hp : prefersPy (.leaf t) p = true)
    (hs : supportsScalar t c p = some true) : ∀ (pre : List Tag), (∀ g ∈ pre, skipped1 c p g) →
    pass1 c p (pre ++ .leaf t :: post) = .found (.leaf t)
  | [], _ => by simp [pass1, hp, hs]
  | g :: pre, h => by
    have ih := pass1_first_fit c p t post hp hs pre fun g hg => h g (.tail _ hg)
    rcases h g (.head _) with h0 | ⟨t', rfl, hs'⟩
    · cases g <;> simp only [List.cons_append, pass1, h0, Bool.false_eq_true, if_false, ih]
    · cases hpp : prefersPy (.leaf t') p <;> simp only [List.cons_append, pass1, hpp, Bool.false_eq_true, if_false, if_true, hs', ih]

theorem pass2_first_fit (c : Int) (p : PyVal) (t : Ty) (post : List Tag) (hs : supportsScalar t c p = some true) :
    ∀ (pre : List Tag), (∀ g ∈ pre, ∃ t', g = .leaf t' ∧ supportsScalar t' c p = some false) →
    pass2 c p (pre ++ .leaf t :: post) = .found (.leaf t)
  | [], _ => by simp [pass2, hs]
  | g :: pre, h => by
    obtain ⟨t', rfl, hs'⟩ := h g (.head _)
    simp only [List.cons_append, pass2, hs']
    exact pass2_first_fit c p t post hs pre fun g hg => h g (.tail _ hg)

def native (t : Ty) (p : PyVal) : Prop :=
  match t.kind, p with
  | .sint, .int _ | .uint, .int _ => True
  | .bool, .bool _ => True
  | .f32, .float _ | .f64, .float _ => True
  | .char, .str _ | .jis, .str _ => True
  | _, _ => False

theorem native_cases {t : Ty} {p : PyVal} (h : native t p) :
    (∃ n, p = .int n ∧ (t.kind = .sint ∨ t.kind = .uint)) ∨ (∃ b, p = .bool b ∧ t.kind = .bool)
    ∨ (∃ x, p = .float x ∧ (t.kind = .f32 ∨ t.kind = .f64)) ∨ (∃ cps, p = .str cps ∧ (t.kind = .char ∨ t.kind = .jis)) := by
  unfold native at h
  split at h <;> simp_all

theorem set_get_native (t : Ty) (c : Int) (p : PyVal) (hs : supportsScalar t c p = some true) (hn : native t p) :
    ∃ es, setLeaf t c p = .ok es ∧ getLeaf t es = p := by
  rcases native_cases hn with ⟨n, rfl, hk⟩ | ⟨b, rfl, hk⟩ | ⟨x, rfl, hk⟩ | ⟨cps, rfl, hk⟩
  · have hf := (num_range t hk).1
    rcases hk with hk | hk <;>
    · simp [supportsScalar, hk, supNum, hf] at hs
      exact ⟨[n], by simp [setLeaf, hk, convAll, convNum, hf, hs], by simp [getLeaf, hk]⟩
  · exact ⟨[if b then 1 else 0], by simp [setLeaf, hk, boolOfPy], by cases b <;> simp [getLeaf, hk]⟩
  · have hf := (float_range t hk).1
    rcases hk with hk | hk <;>
    · simp [supportsScalar, hk, supNum, hf] at hs
      exact ⟨[(x : Int)], by simp [setLeaf, hk, convAll, convNum, hf, hs], by simp [getLeaf, hk]⟩
  · rcases hk with hk | hk <;>
    · simp only [supportsScalar, hk, supText, Option.some.injEq, Bool.and_eq_true, Bool.not_eq_true', decide_eq_false_iff_not] at hs
      obtain ⟨hcount, henc⟩ := hs
      cases hx : encodeText (codingOf (rowOf t).coding) (cps.map (fun (c : Nat) => (c : Int))) with
      | error e => simp [hx] at henc
      | ok bs =>
        refine ⟨cps.map (fun (c : Nat) => (c : Int)), ?_, by simp [getLeaf, hk, Function.comp_def]⟩
        simp only [setLeaf, hk, hx, List.length_map, hcount, if_false]

theorem plain_value_readback (ts : List Tag) (c : Int) (p : PyVal) (t : Ty) (hm : matchType ts c p = .found (.leaf t)) (hn : native t p) :
    setGet ts c p = .ok (t, p) := by
  obtain ⟨_, ⟨⟩, _, hs⟩ := matchType_found ts c p _ hm
  obtain ⟨es, h1, h2⟩ := set_get_native t c p hs hn
  simp only [setGet, hm, h1, h2]

end SecsModel.Proofs.FnCodecMatch
