import SecsModel.Proofs.CodecVar
/-! The variables API decodes what it should.  `CodecVarDec`: whatever the reference decoder `decodeAny` accepts (any number of length bytes,
any nesting, finite floats), a fresh variable object of a conforming structure decodes to the same value and returns the position after it.
`CodecRound`: the round trip (encode, then decode into a fresh object of a conforming structure), and re-encoding the normalised value. -/
namespace SecsModel.Proofs.CodecVarDec
open SecsModel SecsModel.Spec.E5 SecsModel.Model.Var SecsModel.Proofs.CodecElem SecsModel.Proofs.CodecSpec
  SecsModel.Proofs.CodecVar

/-- how `set()` limits the element count of a leaf class -/
def countOk (t : Ty) (c : Int) (n : Nat) : Prop :=
  match t.kind with
  | .char | .jis | .byte => ¬ (0 < c ∧ c < (n : Int))
  | _ => ¬ (0 ≤ c ∧ c < (n : Int))

instance (t : Ty) (c : Int) (n : Nat) : Decidable (countOk t c n) := by unfold countOk; split <;> infer_instance

mutual
/-- no JIS-8 item anywhere (the `Dynamic.decode` table has no JIS8 entry) -/
def NoJ : Val → Prop
  | .item t _ => t ≠ .j
  | .list xs => NoJList xs
def NoJList : List Val → Prop
  | [] => True
  | x :: xs => NoJ x ∧ NoJList xs
end

/-- `not self.types or typ in self.types` -/
def tagOk (allowed : List Tag) (g : Tag) : Prop := allowed = [] ∨ g ∈ allowed

mutual
/-- `v` is a value of structure `s`: leaf type and count limit, `Dynamic` type list, array elements, record arity -/
def Conforms : Struct → Val → Prop
  | .leaf t c, .item t' es => t' = t ∧ countOk t c es.length
  | .leaf _ _, .list _ => False
  | .dyn allowed c, .item t es => t ≠ .j ∧ tagOk allowed (.leaf t) ∧ countOk t c es.length
  | .dyn allowed _, .list xs => tagOk allowed .arr ∧ NoJList xs
  | .array el _, .list xs => ∀ x ∈ xs, Conforms el x
  | .array _ _, .item _ _ => False
  | .record fs, .list xs => ConformsZip fs xs
  | .record _, .item _ _ => False
def ConformsZip : List Struct → List Val → Prop
  | [], [] => True
  | f :: fs, x :: xs => Conforms f x ∧ ConformsZip fs xs
  | [], _ :: _ => False
  | _ :: _, [] => False
end

instance (allowed : List Tag) (g : Tag) : Decidable (tagOk allowed g) := by unfold tagOk; infer_instance

/-- the Python header parser on a well-formed header, the expected format code being absent (negative) or the one present -/
theorem var_decHeader_hdr {fb : Nat} {lb : Bytes} {code len : Nat} (hd : Hdr fb lb code len) (fmt : Int)
    (hf : ¬ (0 ≤ fmt ∧ fmt ≠ (code : Int))) (rest : Bytes) :
    Model.Var.decHeader fmt false (fb :: (lb ++ rest)) = .ok (lb.length + 1, code, len) := by
  have c1 : ¬ ((lb ++ rest).length < fb % 4) := by rw [List.length_append, hd.count]; omega
  have c2 : ¬ (0 ≤ fmt ∧ fmt ≠ ((fb / 4 : Nat) : Int)) := by rw [hd.code]; exact hf
  have e : (lb ++ rest).take (fb % 4) = lb := by rw [← hd.count]; exact List.take_left' rfl
  simp only [Model.Var.decHeader, Bool.false_eq_true, if_false]
  rw [if_neg c1, if_neg c2, e, hd.code, hd.len, ← hd.count, Nat.add_comm]

theorem unpack_eq (t : Ty) (h : Numeric t) (c : Bytes) :
    unpack (rowOf t).struct_code c = if c.length ≠ t.width then .error .structError else .ok (elemDec t c) := by
  rcases h.eq_one with rfl | rfl | rfl | rfl | rfl | rfl | rfl | rfl | rfl | rfl <;> rfl

theorem readNums_ok (t : Ty) (h : Numeric t) :
    ∀ (n : Nat) (body : Bytes), n * t.width ≤ body.length →
      readNums (rowOf t).struct_code t.width n body = .ok ((chunksN t.width n body).map (elemDec t))
  | 0, _, _ => rfl
  | n+1, body, hl => by
    have hw : t.width ≤ body.length := by rw [Nat.succ_mul] at hl; omega
    have hlen : (body.take t.width).length = t.width := by rw [List.length_take]; omega
    have ih := readNums_ok t h n (body.drop t.width) (by rw [List.length_drop, Nat.succ_mul] at *; omega)
    simp only [readNums, unpack_eq t h, hlen, ne_eq, not_true_eq_false, if_false, ih, chunksN, List.map_cons]

theorem readNums_decElems (t : Ty) (h : Numeric t) (p r : Bytes)
    (hm : p.length % t.width = 0) : readNums (rowOf t).struct_code t.width (p.length / t.width) (p ++ r) = .ok (decElems t p) := by
  have hnw : p.length / t.width * t.width = p.length := Nat.div_mul_cancel (Nat.dvd_of_mod_eq_zero hm)
  rw [readNums_ok t h _ _ (by rw [hnw, List.length_append]; omega), chunksN_append _ _ _ _ hnw.symm, decElems]

theorem checkRange_ok (r : Row) : ∀ (es : List Int), (∀ e ∈ es, outOfRange r e = false) → checkRange r es = .ok es
  | [], _ => rfl
  | e :: es, h => by
    have h1 := h e (by simp)
    have ih := checkRange_ok r es (fun x hx => h x (by simp [hx]))
    simp only [checkRange, h1, Bool.false_eq_true, if_false, ih]

theorem decodeText_latin : ∀ (bs : Bytes), decodeText .latin1 bs = .ok (bs.map (fun (b : Nat) => (b : Int)))
  | [] => rfl
  | b :: bs => by simp only [decodeText, decodeChar, decodeText_latin bs, List.map_cons]

theorem decodeText_jis : ∀ (bs : Bytes), AllBytes bs → decodeText .jis8 bs = .ok (bs.map (fun (b : Nat) => ((jisChar b : Nat) : Int)))
  | [], _ => rfl
  | b :: bs, h => by
    have hb : b < 256 := h b (by simp)
    have ih := decodeText_jis bs (fun x hx => h x (by simp [hx]))
    simp only [decodeText, decodeChar, jis_table_get b hb, ih, List.map_cons]

theorem decodeText_decElems {t : Ty} (ht : t = .a ∨ t = .j) (p : Bytes) (hab : AllBytes p) :
    decodeText (codingOf (rowOf t).coding) p = .ok (decElems t p) := by
  rcases ht with rfl | rfl
  · rw [string_coding, decodeText_latin, decElems_byte (.inr rfl)]
  · rw [jis8_coding, decodeText_jis p hab, decElems_j]

theorem readBools_ok : ∀ (n : Nat) (body : Bytes), n ≤ body.length →
    readBools n body = .ok ((body.take n).map (fun (b : Nat) => if b = 0 then (0 : Int) else 1))
  | 0, _, _ => by simp [readBools]
  | n+1, [], h => by simp at h
  | n+1, b :: bs, h => by
    have ih := readBools_ok n bs (by simpa using h)
    simp only [readBools, ih, List.take_succ_cons, List.map_cons]

theorem var_decLeaf_wire {fb : Nat} {lb p : Bytes} {t : Ty} (hd : Hdr fb lb t.code p.length) (hm : p.length % t.width = 0) (hab : AllBytes p)
    (hacc : ∀ e ∈ decElems t p, accElem t e = true) (c : Int) (hc : countOk t c (decElems t p).length) (r : Bytes) :
    decLeaf t c false (fb :: (lb ++ (p ++ r))) = .ok (.item t (decElems t p), (fb :: (lb ++ p)).length) := by
  rw [show (fb :: (lb ++ p)).length = lb.length + 1 + p.length by simp only [List.length_cons, List.length_append]; omega]
  have hfmt : ¬ (0 ≤ (rowOf t).format_code ∧ (rowOf t).format_code ≠ ((t.code : Nat) : Int)) := by rw [row_code]; omega
  simp only [decLeaf, var_decHeader_hdr hd _ hfmt, List.drop_succ_cons, List.drop_left', List.take_left']
  induction t using Ty.kind_cases with
  | b =>
    simp only [countOk, Ty.kind, decElems_byte (.inl rfl), List.length_map] at hc ⊢
    cases p with
    | nil => rfl
    | cons b p => simp only [List.length_cons, Nat.zero_lt_succ, if_true] at hc ⊢; rw [if_neg hc]
  | bool =>
    simp only [countOk, Ty.kind, decElems_bool, List.length_map] at hc ⊢
    simp only [readBools_ok p.length (p ++ r) (by simp), List.take_left', List.length_map, hc, if_false]
  | a | j =>
    -- `setStr` first tests `encodeText`: it succeeds since the Spec encoder does (`text_eq`)
    obtain ⟨q, hq⟩ := encElems_ok _ _ hacc
    rw [← text_eq _ (by decide) _ hacc] at hq
    have h0 : ∀ cd, (if 0 < p.length then decodeText cd p else .ok []) = decodeText cd p := fun cd => by cases p <;> rfl
    simp only [countOk, Ty.kind] at hc
    simp only [Ty.kind, h0]
    rw [decodeText_decElems (by decide) p hab]
    simp only [setStr, hq, hc, if_false]
  | num t hk =>
    have hnw : p.length / t.width * t.width = p.length := Nat.div_mul_cancel (Nat.dvd_of_mod_eq_zero hm)
    have c1 : ¬ ((t.width : Int) ≤ 0) := by have := width_pos t; omega
    have hb := row_bytes t hk
    have hrd := readNums_decElems t hk p r hm
    have hrange : ∀ e ∈ decElems t p, outOfRange (rowOf t) e = false := fun e he => acc_inRange hk (hacc e he)
    have hcnt : ¬ (0 ≤ c ∧ c < ((decElems t p).length : Int)) := by
      rcases hk with h | h | h | h <;> simpa only [countOk, h] using hc
    rcases hk with h | h | h | h <;>
      simp only [h, hb, c1, if_false, Int.toNat_natCast, hrd, setNums, hcnt, checkRange_ok _ _ hrange, hnw]

theorem tagOk_check (allowed : List Tag) (g : Tag) (h : tagOk allowed g) : (!(allowed.isEmpty || allowed.contains g)) = false := by
  rcases h with h | h
  · subst h; rfl
  · have : allowed.contains g = true := List.contains_iff_mem.mpr h
    rw [this, Bool.or_true]; rfl

theorem any_leaf (t : Ty) (h : t ≠ .j) : tagOk anyTags (.leaf t) ∧ dynLookup t.code = some (.leaf t) :=
  (by decide +kernel : ∀ t ∈ Ty.all, t ≠ .j → tagOk anyTags (.leaf t) ∧ dynLookup t.code = some (.leaf t)) t (Ty.mem_all t) h

theorem any_arr : tagOk anyTags .arr ∧ dynLookup 0 = some .arr := by decide +kernel

theorem noJ_any (v : Val) (h : NoJ v) : Conforms (.dyn anyTags (-1)) v :=
  match v, h with
  | .item t _, h => ⟨h, (any_leaf t h).1, by simp only [countOk]; split <;> omega⟩
  | .list _, h => ⟨any_arr.1, h⟩

theorem noJList_any : ∀ (xs : List Val), NoJList xs → ∀ x ∈ xs, Conforms (.dyn anyTags (-1)) x
  | [], _, x, hx => by simp at hx
  | y :: ys, h, x, hx => by
    simp only [NoJList] at h
    rcases List.mem_cons.mp hx with h1 | h1
    · subst h1; exact noJ_any _ h.1
    · exact noJList_any ys h.2 x h1

theorem finite_mem : ∀ (xs : List Val), FiniteList xs → ∀ x ∈ xs, x.Finite
  | [], _, x, hx => by simp at hx
  | y :: ys, h, x, hx => by
    simp only [FiniteList] at h
    rcases List.mem_cons.mp hx with h1 | h1
    · subst h1; exact h.1
    · exact finite_mem ys h.2 x h1

/-- `Array.decode` (also the array a `Dynamic` creates for a list): header, then the element loop -/
theorem decS_array {fb : Nat} {lb ps : Bytes} {xs : List Val} (hd : Hdr fb lb 0 xs.length) (el : Struct) (c : Int) (r : Bytes) (g : Nat)
    (h : decArr g el false xs.length (ps ++ r) = .ok (xs, ps.length)) :
    decS (g + 1) (.array el c) false (fb :: (lb ++ (ps ++ r))) = .ok (.list xs, (fb :: (lb ++ ps)).length) := by
  have hfmt : ¬ (0 ≤ Gen.VarTypes.cArray.format_code ∧ Gen.VarTypes.cArray.format_code ≠ ((0 : Nat) : Int)) := by
    rw [row_list_code.1]; omega
  simp only [decS, var_decHeader_hdr hd _ hfmt, List.drop_succ_cons, List.drop_left', h, List.length_cons, List.length_append]
  congr 2; omega

mutual
/- Fuel: twice the size, since a `Dynamic` that meets a list spends one unit on becoming `Array(ANYVALUE)` before the array spends
its own on the loop. -/
theorem wire_decS {p : Bytes} {v : Val} : Wire p v → v.Finite → ∀ (s : Struct), Conforms s v →
    ∀ (r : Bytes) (g : Nat), 2 * v.size ≤ g → decS g s false (p ++ r) = .ok (v, p.length)
  | .item (t := t) (p := p) hd hm hp rfl, hfin, s, hs, r, g, hg => by
    obtain ⟨g', rfl⟩ : ∃ g', g = g' + 1 := ⟨g - 1, by simp only [Val.size] at hg; omega⟩
    have hacc : ∀ e ∈ decElems t p, accElem t e = true := fun e he => (decElems_acc t p hm hp hfin e he).1
    rw [List.cons_append, List.append_assoc]
    match s, hs with
    | .array _ _, hs => exact hs.elim
    | .record _, hs => exact hs.elim
    | .leaf t' c, hs =>
      obtain ⟨rfl, hc⟩ := hs
      rw [decS, var_decLeaf_wire hd hm hp hacc c hc r]
    | .dyn allowed c, hs =>
      obtain ⟨hj, hok, hc⟩ := hs
      simp only [decS, var_decHeader_hdr hd (-1) (by omega), (any_leaf t hj).2, tagOk_check allowed _ hok, Bool.false_eq_true, if_false]
      exact var_decLeaf_wire hd hm hp hacc c hc r
  | .list (xs := xs) hd hl, hfin, s, hs, r, g, hg => by
    simp only [Val.size] at hg
    rw [List.cons_append, List.append_assoc]
    match s, hs with
    | .leaf _ _, hs => exact hs.elim
    | .array el c, hs =>
      obtain ⟨g', rfl⟩ : ∃ g', g = g' + 1 := ⟨g - 1, by omega⟩
      exact decS_array hd el c r g' (wireList_decArr hl hfin el hs r g' (by omega))
    | .record fs, hs =>
      obtain ⟨g', rfl⟩ : ∃ g', g = g' + 1 := ⟨g - 1, by omega⟩
      have hfmt : ¬ (0 ≤ Gen.VarTypes.cList.format_code ∧ Gen.VarTypes.cList.format_code ≠ ((0 : Nat) : Int)) := by
        rw [row_list_code.2]; omega
      simp only [decS, var_decHeader_hdr hd _ hfmt, List.drop_succ_cons, List.drop_left', wireList_decRec hl hfin fs hs r g' (by omega),
        List.length_cons, List.length_append]
      congr 2; omega
    | .dyn allowed c, hs =>
      obtain ⟨g', rfl⟩ : ∃ g', g = g' + 1 + 1 := ⟨g - 2, by omega⟩
      rw [decS]
      simp only [var_decHeader_hdr hd (-1) (by omega), any_arr.2, tagOk_check allowed _ hs.1, Bool.false_eq_true, if_false]
      exact decS_array hd _ (-1) r g' (wireList_decArr hl hfin _ (noJList_any xs hs.2) r g' (by omega))
theorem wireList_decArr {ps : Bytes} {xs : List Val} : WireList ps xs → FiniteList xs →
    ∀ (el : Struct), (∀ x ∈ xs, Conforms el x) → ∀ (r : Bytes) (g : Nat), 2 * sizeList xs ≤ g →
    Model.Var.decArr g el false xs.length (ps ++ r) = .ok (xs, ps.length)
  | .nil, _, _, _, _, g, _ => by cases g <;> rfl
  | .cons (ps := ps) h hs, hfin, el, hc, r, g, hg => by
    simp only [sizeList] at hg
    obtain ⟨g', rfl⟩ : ∃ g', g = g' + 1 := ⟨g - 1, by omega⟩
    simp only [List.length_cons, Model.Var.decArr, List.append_assoc, wire_decS h hfin.1 el (hc _ (by simp)) (ps ++ r) g' (by omega),
      List.drop_left', wireList_decArr hs hfin.2 el (fun y hy => hc y (by simp [hy])) r g' (by omega), List.length_append]
theorem wireList_decRec {ps : Bytes} {xs : List Val} : WireList ps xs → FiniteList xs →
    ∀ (fs : List Struct), ConformsZip fs xs → ∀ (r : Bytes) (g : Nat), 2 * sizeList xs ≤ g →
    Model.Var.decRec g fs false xs.length (ps ++ r) = .ok (xs, ps.length)
  | .nil, _, _, _, _, g, _ => by cases g <;> rfl
  | .cons (ps := ps) h hs, hfin, s :: ss, hc, r, g, hg => by
    simp only [sizeList] at hg
    obtain ⟨g', rfl⟩ : ∃ g', g = g' + 1 := ⟨g - 1, by omega⟩
    simp only [List.length_cons, Model.Var.decRec, List.append_assoc, wire_decS h hfin.1 s hc.1 (ps ++ r) g' (by omega),
      List.drop_left', wireList_decRec hs hfin.2 ss hc.2 r g' (by omega), List.length_append]
end

/-- an item on the wire, at any offset and followed by anything, is decoded by a fresh object of a structure its value conforms to -/
theorem wire_decodeAs {p : Bytes} {v : Val} (hw : Wire p v) (hfin : v.Finite) (s : Struct) (hs : Conforms s v) (pre rest : Bytes) :
    decodeAs s (pre ++ (p ++ rest)) pre.length = .ok (v, pre.length + p.length) := by
  have := hw.size_lt
  have hne : ((pre ++ (p ++ rest)).length == 0) = false := by
    have : ¬ ((pre ++ (p ++ rest)).length = 0) := by simp only [List.length_append]; omega
    simpa using this
  have hd := wire_decS hw hfin s hs rest (2 * (pre ++ (p ++ rest)).length + 4) (by simp only [List.length_append]; omega)
  simp only [decodeAs, hne, List.drop_left', hd]

theorem decodeAs_complete (bs : Bytes) (v : Val) (rest : Bytes) (h : decodeAny bs = some (v, rest)) (hab : AllBytes bs) (hfin : v.Finite)
    (s : Struct) (hs : Conforms s v) (pre : Bytes) :
    decodeAs s (pre ++ bs) pre.length = .ok (v, pre.length + (bs.length - rest.length)) := by
  obtain ⟨p, rfl, hw⟩ := decItem_wire _ h hab
  rw [wire_decodeAs hw hfin s hs, List.length_append, Nat.add_sub_cancel]

end SecsModel.Proofs.CodecVarDec

namespace SecsModel.Proofs.CodecRound
open SecsModel SecsModel.Spec.E5 SecsModel.Model.Var SecsModel.Proofs.CodecElem SecsModel.Proofs.CodecSpec
  SecsModel.Proofs.CodecVar SecsModel.Proofs.CodecVarDec

def nanElem (t : Ty) (e : Int) : Bool :=
  match t.kind with
  | .f32 | .f64 => IEEE.isNaN64 e.toNat
  | _ => false

mutual
/-- no float element is a NaN (a NaN has no "equal value") -/
def NoNaN : Val → Prop
  | .item t es => ∀ e ∈ es, nanElem t e = false
  | .list xs => NoNaNList xs
def NoNaNList : List Val → Prop
  | [] => True
  | x :: xs => NoNaN x ∧ NoNaNList xs
end

theorem fin_not_nan (t : Ty) (e : Int) (h : finElem t e = true) : nanElem t e = false := by
  simp only [finElem, nanElem] at *
  generalize t.kind = k at *
  cases k <;> first | rfl | exact IEEE.not_nan_of_finite _ h

theorem header_allBytes {code len : Nat} {h : Bytes} (hc : code < 64) (hh : header code len = .ok h) : AllBytes h := by
  obtain ⟨_, rfl⟩ := header_ok hh
  have := nlbOf_range len
  exact AllBytes.cons_iff.mpr ⟨by omega, be_allBytes _ _⟩

mutual
theorem encode_allBytes (v : Val) (bs : Bytes) (he : Spec.E5.encode v = .ok bs) : AllBytes bs := by
  match v with
  | .item t es =>
    obtain ⟨p, h, hp, hh, rfl⟩ := encode_item_ok he
    exact AllBytes.append_iff.mpr ⟨header_allBytes (code_lt t).1 hh, (encElems_spec t es p hp).2.1⟩
  | .list xs =>
    obtain ⟨h, p, hh, hp, rfl⟩ := encode_list_ok he
    exact AllBytes.append_iff.mpr ⟨header_allBytes (by omega) hh, encodeList_allBytes xs p hp⟩
theorem encodeList_allBytes (xs : List Val) (bs : Bytes) (he : Spec.E5.encodeList xs = .ok bs) : AllBytes bs := by
  match xs with
  | [] => simp only [Spec.E5.encodeList] at he; injection he with he; subst he; exact .nil
  | x :: xs =>
    obtain ⟨a, b, ha, hb, rfl⟩ := encodeList_cons_ok he
    exact AllBytes.append_iff.mpr ⟨encode_allBytes x a ha, encodeList_allBytes xs b hb⟩
end

theorem acc_float_le {t : Ty} (ht : IsFloat t) {e : Int} (ha : accElem t e = true) (hn : nanElem t e = false) :
    e.toNat % 2^63 ≤ t.hi.toNat := by
  rcases ((acc_float ht e).mp ha).2 with h3 | h3
  · rcases ht with rfl | rfl <;> simp only [nanElem, Ty.kind, h3] at hn <;> cases hn
  · exact h3

theorem normElem_fin (t : Ty) (e : Int) (ha : accElem t e = true) (hn : nanElem t e = false) : finElem t (normElem t e) = true := by
  induction t using Ty.kind_cases with
  | b | bool | a | j => rfl
  | num t hk =>
    rcases hk.cases with (hk | hk) | (rfl | rfl)
    · simp only [finElem, hk]
    · simp only [finElem, hk]
    · obtain ⟨f, hf, _, hfin⟩ := IEEE.round32_of_le_max _ (acc_float_le (.inl rfl) ha hn)
      obtain ⟨_, hmx⟩ := IEEE.widen_le_max f hfin
      simp only [normElem, hf, finElem, Ty.kind, Int.toNat_natCast, IEEE.isFinite64]
      exact decide_eq_true (by simp only [IEEE.fltMax64] at hmx; omega)
    · have h3 := acc_float_le (.inr rfl) ha hn
      simp only [normElem, finElem, Ty.kind, IEEE.isFinite64]
      exact decide_eq_true (by simp only [Ty.hi] at h3; omega)

mutual
theorem norm_finite (v : Val) (ha : Accepted v) (hn : NoNaN v) : (norm v).Finite :=
  match v, ha, hn with
  | .item t es, ha, hn => fun e he => by
    obtain ⟨e0, h0, rfl⟩ := List.mem_map.mp he
    exact normElem_fin t e0 (ha e0 h0) (hn e0 h0)
  | .list xs, ha, hn => normList_finite xs ha hn
theorem normList_finite (xs : List Val) (ha : AcceptedList xs) (hn : NoNaNList xs) : FiniteList (normList xs) :=
  match xs, ha, hn with
  | [], _, _ => trivial
  | x :: xs, ha, hn => ⟨norm_finite x ha.1 hn.1, normList_finite xs ha.2 hn.2⟩
end

mutual
theorem norm_noJ (v : Val) (h : NoJ v) : NoJ (norm v) :=
  match v, h with
  | .item _ _, h => h
  | .list xs, h => normList_noJ xs h
theorem normList_noJ (xs : List Val) (h : NoJList xs) : NoJList (normList xs) :=
  match xs, h with
  | [], _ => trivial
  | x :: xs, h => ⟨norm_noJ x h.1, normList_noJ xs h.2⟩
end

theorem normList_eq_map : ∀ (xs : List Val), normList xs = xs.map norm
  | [] => rfl
  | x :: xs => by rw [normList, normList_eq_map xs, List.map_cons]

mutual
theorem norm_conforms (s : Struct) (v : Val) (h : Conforms s v) : Conforms s (norm v) :=
  match s, v, h with
  | .leaf _ _, .item _ es, h => ⟨h.1, by simpa only [List.length_map] using h.2⟩
  | .dyn _ _, .item _ es, h => ⟨h.1, h.2.1, by simpa only [List.length_map] using h.2.2⟩
  | .dyn _ _, .list xs, h => ⟨h.1, normList_noJ xs h.2⟩
  | .array el _, .list xs, h => fun y hy => by
    rw [normList_eq_map] at hy
    obtain ⟨x, hx, rfl⟩ := List.mem_map.mp hy
    exact norm_conforms el x (h x hx)
  | .record fs, .list xs, h => normList_conformsZip fs xs h
theorem normList_conformsZip (fs : List Struct) (xs : List Val) (h : ConformsZip fs xs) : ConformsZip fs (normList xs) :=
  match fs, xs, h with
  | [], [], _ => trivial
  | f :: fs, x :: xs, h => ⟨norm_conforms f x h.1, normList_conformsZip fs xs h.2⟩
end

theorem roundtrip (v : Val) (s : Struct) (ha : Accepted v) (hn : NoNaN v) (hs : Conforms s v) (bs : Bytes)
    (he : Model.Var.encode v = .ok bs) (pre tail : Bytes) (ht : AllBytes tail) :
    decodeAs s (pre ++ (bs ++ tail)) pre.length = .ok (norm v, pre.length + bs.length) := by
  rw [encode_exact v ha] at he
  have h1 := spec_sound v bs tail he
  have hab : AllBytes (bs ++ tail) := AllBytes.append_iff.mpr ⟨encode_allBytes v bs he, ht⟩
  have := decodeAs_complete (bs ++ tail) (norm v) tail h1 hab (norm_finite v ha hn) s (norm_conforms s v hs) pre
  rw [this]
  simp [List.length_append]

mutual
theorem norm_exact (v : Val) (h : v.Exact32) : norm v = v :=
  match v, h with
  | .item t es, h => by rw [norm, List.map_congr_left h, List.map_id']
  | .list xs, h => by rw [norm, normList_exact xs h]
theorem normList_exact (xs : List Val) (h : Exact32List xs) : normList xs = xs :=
  match xs, h with
  | [], _ => rfl
  | x :: xs, h => by rw [normList, norm_exact x h.1, normList_exact xs h.2]
end

theorem elemEnc_norm (t : Ty) (e : Int) (ha : accElem t e = true) (hn : nanElem t e = false) : elemEnc t (normElem t e) = elemEnc t e := by
  by_cases ht : t = .f4
  · subst ht
    obtain ⟨f, hf, hlt, hfin⟩ := IEEE.round32_of_le_max _ (acc_float_le (.inl rfl) ha hn)
    obtain ⟨hw, _⟩ := IEEE.widen_le_max f hfin
    have ok1 : okElem .f4 ((IEEE.widen f : Nat) : Int) = true := by
      simp only [okElem, Ty.kind]; exact decide_eq_true (by omega)
    simp only [normElem, hf, elemEnc, ok1, acc_ok ha, Bool.true_eq_false, if_false, Ty.kind, Int.toNat_natCast,
      IEEE.round32_widen f hlt hfin]
  · rw [normElem_of_ne_f4 t e ht]

theorem encElems_norm (t : Ty) : ∀ (es : List Int), (∀ e ∈ es, accElem t e = true) → (∀ e ∈ es, nanElem t e = false) →
    encElems t (es.map (normElem t)) = encElems t es
  | [], _, _ => rfl
  | e :: es, ha, hn => by
    simp only [List.map_cons, encElems, elemEnc_norm t e (ha e (by simp)) (hn e (by simp)),
      encElems_norm t es (fun x hx => ha x (by simp [hx])) (fun x hx => hn x (by simp [hx]))]

mutual
theorem encode_norm (v : Val) (ha : Accepted v) (hn : NoNaN v) : Spec.E5.encode (norm v) = Spec.E5.encode v :=
  match v, ha, hn with
  | .item t es, ha, hn => by simp only [norm, Spec.E5.encode, encElems_norm t es ha hn]
  | .list xs, ha, hn => by
    have hl : (normList xs).length = xs.length := by rw [normList_eq_map, List.length_map]
    simp only [norm, Spec.E5.encode, hl, encodeList_norm xs ha hn]
theorem encodeList_norm (xs : List Val) (ha : AcceptedList xs) (hn : NoNaNList xs) : Spec.E5.encodeList (normList xs) = Spec.E5.encodeList xs :=
  match xs, ha, hn with
  | [], _, _ => rfl
  | x :: xs, ha, hn => by simp only [normList, Spec.E5.encodeList, encode_norm x ha.1 hn.1, encodeList_norm xs ha.2 hn.2]
end

end SecsModel.Proofs.CodecRound
