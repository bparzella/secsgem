import SecsModel.Proofs.SecsILine
/-! Consequences of the stage invariant: completion determines everything, prefixes, progress (C17). -/
namespace SecsModel.Proofs.SecsILine
open SecsModel SecsModel.Model.SecsI SecsModel.Model.SecsILine

/-- what the peer must have received / the line must show / `send_message` must return once the call has returned -/
def Ctx.expectDelivered (ctx : Ctx) : List Block :=
  match ctx.bad with | none => ctx.pairs.map (·.2) | some (j, _, _) => (ctx.pairs.take j).map (·.2)
def Ctx.expectLog (ctx : Ctx) : List (Bool × Bytes) :=
  match ctx.bad with
  | none => transcript (ctx.pairs.map (·.1))
  | some (j, _, _) => transcript ((ctx.pairs.take j).map (·.1)) ++ (match ctx.pairs[j]? with | some (enc, _) => cycle enc false | none => [])
def Ctx.expectOutcome (ctx : Ctx) : Bool := ctx.bad.isNone

theorem inv_complete (ctx : Ctx) (hbad : BadOK ctx) (s : State) (ok : Bool) (hinv : Inv ctx s) (hfin : s.a.app = .fin ok) :
    ok = ctx.expectOutcome ∧ s.b.delivered = ctx.expectDelivered ∧ s.log = ctx.expectLog
      ∧ s.ab = [] ∧ s.ba = [] ∧ s.a.rxbuf = [] ∧ s.b.rxbuf = [] := by
  obtain ⟨done, todo, hc, hst⟩ := hinv
  cases hst with
  | s0 happ | s1 _ _ _ _ happ | s2 _ _ _ _ happ | s3 _ _ _ _ happ | s4 _ _ _ _ happ | s5 _ _ _ _ happ | s6 _ _ _ _ happ =>
    rw [happ] at hfin; cases hfin
  | finOk htodo happ _ _ _ harx hba hbrx hab hdel hlog hnp =>
    rw [happ] at hfin; cases hfin
    have hsplit : ctx.pairs = done := by rw [hc.split, htodo, List.append_nil]
    -- all blocks are behind us, and the faulty one would be one of them
    have hnone : ctx.bad = none := by
      cases hb : ctx.bad with
      | none => rfl
      | some b =>
        obtain ⟨j, t, v⟩ := b
        obtain ⟨enc, blk, hg, _⟩ := hbad j t v hb
        have := (List.getElem?_eq_some_iff.mp hg).1
        have := hnp j t v hb
        rw [hsplit] at *
        omega
    simp only [Ctx.expectOutcome, Ctx.expectDelivered, Ctx.expectLog, hnone, hsplit]
    exact ⟨rfl, hdel, hlog, hab, hba, harx, hbrx⟩
  | finBad enc blk rest htodo hb happ _ _ _ harx hba hbrx hab hdel hlog =>
    rw [happ] at hfin; cases hfin
    obtain ⟨t, v, hbd⟩ := Ctx.isBad_eq_true.mp hb
    have h1 : ctx.pairs.take done.length = done := by rw [hc.split, List.take_left']; rfl
    have h2 : ctx.pairs[done.length]? = some (enc, blk) := by rw [hc.split, htodo, List.getElem?_append_right (Nat.le_refl _), Nat.sub_self]; rfl
    simp only [Ctx.expectOutcome, Ctx.expectDelivered, Ctx.expectLog, hbd, h1, h2]
    exact ⟨rfl, hdel, hlog, hab, hba, harx, hbrx⟩

theorem inv_delivered_prefix (ctx : Ctx) (s : State) (hinv : Inv ctx s) :
    ∃ m, s.b.delivered = (ctx.pairs.map (·.2)).take m ∧ (∀ j t v, ctx.bad = some (j, t, v) → m ≤ j) := by
  obtain ⟨done, todo, hc, hst⟩ := hinv
  have hd : done.map (·.2) = (ctx.pairs.map (·.2)).take done.length := by
    rw [hc.split, List.map_append, List.take_left' (List.length_map _)]
  -- stages s5, s6: the block in flight counts unless it is the faulty one
  have plus : ∀ enc blk rest, todo = (enc, blk) :: rest → ctx.notPast done.length →
      s.b.delivered = done.map (·.2) ++ (if ctx.isBad done.length then [] else [blk]) →
      ∃ m, s.b.delivered = (ctx.pairs.map (·.2)).take m ∧ (∀ j t v, ctx.bad = some (j, t, v) → m ≤ j) := by
    intro enc blk rest htodo hnp hdel
    cases hib : ctx.isBad done.length with
    | true => exact ⟨done.length, by rw [hdel, hib, hd]; exact List.append_nil _, hnp⟩
    | false =>
      refine ⟨done.length + 1, ?_, hnp.succ hib⟩
      rw [hdel, hib, hc.split, htodo, List.append_cons, List.map_append, List.take_left' (by simp), List.map_append]; rfl
  cases hst with
  | s0 _ _ _ _ _ _ _ _ hdel _ _ hnp | s1 _ _ _ _ _ _ _ _ _ _ _ _ _ _ hdel _ _ hnp | s2 _ _ _ _ _ _ _ _ _ _ _ _ hdel _ _ hnp
  | s3 _ _ _ _ _ _ _ _ _ _ _ _ hdel _ _ hnp | s4 _ _ _ _ _ _ _ _ _ _ _ _ hdel _ _ hnp | finOk _ _ _ _ _ _ _ _ _ hdel _ hnp =>
    exact ⟨done.length, by rw [hdel, hd], hnp⟩
  | s5 enc blk rest htodo _ _ _ _ _ _ _ _ hdel _ _ hnp | s6 enc blk rest htodo _ _ _ _ _ _ _ _ _ hdel _ _ hnp =>
    exact plus enc blk rest htodo hnp hdel
  | finBad _ _ _ _ hb _ _ _ _ _ _ _ _ hdel =>
    obtain ⟨t, v, hbd⟩ := Ctx.isBad_eq_true.mp hb
    exact ⟨done.length, by rw [hdel, hd], fun j _ _ hbj => by rw [hbd] at hbj; cases hbj; exact Nat.le_refl _⟩

theorem inv_progress (ctx : Ctx) (hfr : ∀ p ∈ ctx.pairs, Framed p.1 p.2) (hbad : BadOK ctx) (s : State) (hinv : Inv ctx s)
    (hrun : ∀ ok, s.a.app ≠ .fin ok) : ∃ l s', step s l = some s' := by
  obtain ⟨done, todo, hc, hst⟩ := hinv
  have dlvB : s.ab ≠ [] → ∃ l s', step s l = some s' := fun h =>
    ⟨.dlv false s.ab.length, _, if_pos ⟨List.length_pos_iff.mpr h, Nat.le_refl _⟩⟩
  have dlvA : s.ba ≠ [] → ∃ l s', step s l = some s' := fun h =>
    ⟨.dlv true s.ba.length, _, if_pos ⟨List.length_pos_iff.mpr h, Nat.le_refl _⟩⟩
  have thrA : ∀ {r}, thrStep s.a = some r → ∃ l s', step s l = some s' := fun h => ⟨.thr true, _, congrArg (Option.map _) h⟩
  have thrB : ∀ {r}, thrStep s.b = some r → ∃ l s', step s l = some s' := fun h => ⟨.thr false, _, congrArg (Option.map _) h⟩
  have appA : ∀ {r}, appStep s.a = some r → ∃ l s', step s l = some s' := fun h => ⟨.app true, _, congrArg (Option.map _) h⟩
  cases hst with
  | finOk _ happ => exact absurd happ (hrun true)
  | finBad _ _ _ _ _ happ => exact absurd happ (hrun false)
  | s0 happ =>
    cases todo with
    | nil => exact appA (appStep_done happ)
    | cons p rest => exact appA (appStep_queue happ)
  | s6 _ _ _ _ happ _ hslot => exact appA (appStep_resolved happ hslot)
  | s1 _ _ _ _ _ hq _ hpa hatrig _ harx =>
    rcases hpa with hpa | hpa | hpa
    · have ht : s.a.trig = true := hatrig.resolve_left (by rw [hpa]; exact fun h => nomatch h)
      exact thrA ((thrStep_idle hpa).trans (if_pos ht))
    · exact thrA (thrStep_sendTop_cons hpa hq)
    · exact thrA (thrStep_recvLoop_nil hpa harx)
  | s2 _ _ _ _ _ _ _ _ hpb _ _ hpend =>
    by_cases hab : s.ab = []
    · rw [hab, List.append_nil] at hpend
      rcases hpb with hpb | hpb | hpb
      · exact thrB ((thrStep_idle hpb).trans (if_pos (hc.btrig hpb (by rw [hpend]; exact List.cons_ne_nil _ _))))
      · exact thrB (thrStep_sendTop_nil hpb hc.bq)
      · exact thrB (thrStep_recvLoop_cons hpb hpend)
    · exact dlvB hab
  | s3 _ _ _ _ _ hq _ hpa _ hpend =>
    by_cases hba : s.ba = []
    · rw [hba, List.append_nil] at hpend
      exact thrA (thrStep_waitEnq_go hpa hpend hq (fun hh => eot_ne_enq hh.1))
    · exact dlvA hba
  | s5 _ _ _ _ _ _ _ hpa _ hpend =>
    by_cases hba : s.ba = []
    · rw [hba, List.append_nil] at hpend
      exact thrA (thrStep_waitAck_cons hpa hpend)
    · exact dlvA hba
  | s4 enc blk rest htodo _ _ _ _ hpb _ _ hpend =>
    by_cases hab : s.ab = []
    · obtain ⟨l, r, hw, hlen, hdec⟩ := wire_framed hbad (by rw [hc.split, htodo]) (hfr (enc, blk) (by rw [hc.split, htodo]; simp))
      rw [hab, List.append_nil, hw] at hpend
      rw [hw] at hdec
      exact thrB (thrStep_waitBlk_frame hpb hpend hlen hdec)
    · exact dlvB hab

end SecsModel.Proofs.SecsILine
