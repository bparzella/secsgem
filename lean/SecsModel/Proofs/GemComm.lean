import SecsModel.Model.GemComm
/-!
# Proofs.GemComm — the generated tables in closed form; `perform` and `step` described once

Everything that depends on the *generated* `Gen.CommSM` / `Gen.Callbacks` is confined to the lemmas up to `dispatchRow_eq`: the
wiring, loss and dispatch lemmas evaluate one lookup for all nine states, `smStep_eq` for all 81 pairs of state and transition,
`hooked_*`, `forwards`, `selects` a single entry.  A change of the source that moves a transition, a wiring row, a protocol
hook or the dispatch chain changes the generated text and one of these lemmas stops checking.
-/
namespace SecsModel.Proofs.GemComm
open SecsModel SecsModel.Spec.E30Comm SecsModel.Model.GemComm

-- `∀ c : Comm`, `∀ t : Trans` and equality of `smStep` results made decidable: each table lemma below is then one kernel
-- evaluation over all states, where `cases c <;> rfl` elaborates every case through string comparison in the elaborator
local instance (p : Comm → Prop) [DecidablePred p] : Decidable (∀ c, p c) :=
  decidable_of_iff (∀ c ∈ Comm.all, p c) ⟨fun h c => h c c.mem_all, fun h c _ => h c⟩
local instance (p : Trans → Prop) [DecidablePred p] : Decidable (∀ t, p t) :=
  decidable_of_iff (∀ t ∈ Trans.all, p t) ⟨fun h t => h t t.mem_all, fun h t _ => h t⟩
local instance : DecidableEq (Except SmErr Comm)
  | .ok a, .ok b => decidable_of_iff (a = b) (by simp)
  | .error a, .error b => decidable_of_iff (a = b) (by simp)
  | .ok _, .error _ => isFalse nofun
  | .error _, .ok _ => isFalse nofun

theorem smStep_eq : ∀ (c : Comm) (t : Trans),
    smStep c t = match allowed t c with | some d => .ok d | none => .error .wrongSource := by
  decide +kernel

theorem smWired_leave_cra : ∀ c : Comm, smWired c "leave" "_on_state_leave_wait_cra" = decide (c = .waitCra) := by
  decide +kernel
theorem smWired_leave_delay : ∀ c : Comm, smWired c "leave" "_on_state_leave_wait_delay" = decide (c = .waitDelay) := by
  decide +kernel
theorem smWired_enter_cra : ∀ c : Comm, smWired c "enter" "_on_state_wait_cra" = decide (c = .waitCra) := by
  decide +kernel
theorem smWired_enter_delay : ∀ c : Comm, smWired c "enter" "_on_state_wait_delay" = decide (c = .waitDelay) := by
  decide +kernel
theorem gemWired_enter_cra : ∀ c : Comm, gemWired c "enter" "_on_state_wait_cra" = decide (c = .waitCra) := by
  decide +kernel
theorem gemWired_enter_comm : ∀ c : Comm, gemWired c "enter" "_on_state_communicating" = decide (c = .communicating) := by
  decide +kernel
theorem hooked_comm : hooked "communicating" "_on_communicating" = true := by decide +kernel
theorem hooked_disc : hooked "disconnected" "_on_disconnected" = true := by decide +kernel
theorem forwards : Gen.Callbacks.disconnectedForwards = true := rfl
theorem selects : Gen.Callbacks.communicatingSelects = true := rfl
theorem lossStates : ∀ c : Comm, Gen.Callbacks.linkLossStates.contains c.name = decide (c = .communicating) := by
  decide +kernel

/-- the `if/elif` chain of `GemHandler._on_message_received`: WAIT_CRA handles S1F13/S1F14, WAIT_DELAY drops,
COMMUNICATING dispatches to the callbacks, every other state falls through -/
theorem dispatchRow_eq : ∀ c : Comm, dispatchRow c = match c with
    | .waitCra => some (false, true, true, true)
    | .waitDelay => some (false, false, false, false)
    | .communicating => some (true, false, false, false)
    | _ => none := by
  decide +kernel

theorem perform_eq (s : State) (t : Trans) : perform s t =
    match allowed t s.comm with
    | none => (s, [.wrongSource t])
    | some d => enterEffects { leaveEffects s with comm := d } := by
  unfold perform; rw [smStep_eq]; cases allowed t s.comm <;> rfl

theorem leaveEffects_eq (s : State) : leaveEffects s =
    { s with t3Armed := s.t3Armed && !decide (s.comm = .waitCra), delayArmed := s.delayArmed && !decide (s.comm = .waitDelay) } := by
  obtain ⟨c, cn, l, a, b, n, m, q⟩ := s
  cases c <;> simp [leaveEffects, smWired_leave_cra, smWired_leave_delay]

theorem sendS1F13_eq (s : State) : sendS1F13 s =
    ({ s with nextSys := s.nextSys + 1, mySys := some s.nextSys,
              queued := if s.connected then s.queued else s.queued ++ [s.nextSys] },
     [if s.connected then .txS1F13 s.nextSys else .blocked]) := by
  unfold sendS1F13; cases s.connected <;> rfl

theorem enterEffects_eq (s : State) : enterEffects s =
    match s.comm with
    | .waitCra => sendS1F13 { s with t3Armed := true }
    | .waitDelay => ({ s with delayArmed := true }, [])
    | .communicating => (s, [.evtCommunicating])
    | _ => (s, []) := by
  obtain ⟨c, cn, l, a, b, n, m, q⟩ := s
  cases c <;> simp [enterEffects, smWired_enter_cra, smWired_enter_delay, gemWired_enter_cra, gemWired_enter_comm, sendS1F13_eq]

/-- what a transition does to the system bytes: the send queue only grows, and a new outstanding S1F13 `k` is written
(connected) or queued (no connection) -/
def SysOk (s s' : State) (o : List Output) : Prop :=
  (∀ k ∈ s.queued, k ∈ s'.queued) ∧
  ∀ k, s'.mySys = some k → s.mySys = some k ∨ (s.connected = true ∧ .txS1F13 k ∈ o) ∨ (s.connected = false ∧ k ∈ s'.queued)

theorem SysOk.refl (s : State) (o : List Output) : SysOk s s o := ⟨fun _ h => h, fun _ h => Or.inl h⟩

theorem SysOk.mono {s s' : State} {o o' : List Output} (h : SysOk s s' o) (ho : ∀ x ∈ o, x ∈ o') : SysOk s s' o' :=
  ⟨h.1, fun k hk => (h.2 k hk).imp_right (Or.imp_left (And.imp_right (ho _)))⟩

theorem sendS1F13_sys (s : State) : SysOk s (sendS1F13 s).1 (sendS1F13 s).2 := by
  rw [sendS1F13_eq]
  cases h : s.connected <;> simp +contextual [SysOk, h]

theorem enterEffects_comm (s : State) : (enterEffects s).1.comm = s.comm := by
  cases h : s.comm <;> simp [enterEffects_eq, h, sendS1F13_eq]
theorem enterEffects_selected (s : State) : (enterEffects s).1.selected = s.selected := by
  cases h : s.comm <;> simp [enterEffects_eq, h, sendS1F13_eq]
theorem enterEffects_connected (s : State) : (enterEffects s).1.connected = s.connected := by
  cases h : s.comm <;> simp [enterEffects_eq, h, sendS1F13_eq]

theorem enterEffects_sys (s : State) : SysOk s (enterEffects s).1 (enterEffects s).2 := by
  rw [enterEffects_eq]; split
  · exact sendS1F13_sys { s with t3Armed := true }
  all_goals exact SysOk.refl s _

theorem enterEffects_outputs (s : State) (o : Output) (h : o ∈ (enterEffects s).2) :
    (∃ k, o = .txS1F13 k) ∨ o = .blocked ∨ (o = .evtCommunicating ∧ s.comm = .communicating) := by
  rw [enterEffects_eq] at h
  split at h
  next =>
    rw [sendS1F13_eq, List.mem_singleton] at h
    subst h
    split <;> simp
  next => cases h
  next hc => exact Or.inr (Or.inr ⟨List.mem_singleton.mp h, hc⟩)
  next => cases h

theorem perform_of_allowed {s : State} {t : Trans} {d : Comm} (h : allowed t s.comm = some d) :
    perform s t = enterEffects { leaveEffects s with comm := d } := by
  rw [perform_eq, h]

theorem perform_of_refused {s : State} {t : Trans} (h : allowed t s.comm = none) : perform s t = (s, [.wrongSource t]) := by
  rw [perform_eq, h]

theorem perform_comm (s : State) (t : Trans) : (perform s t).1.comm = (allowed t s.comm).getD s.comm := by
  cases h : allowed t s.comm with
  | none => rw [perform_of_refused h]; rfl
  | some d => rw [perform_of_allowed h]; exact enterEffects_comm _

theorem perform_selected (s : State) (t : Trans) : (perform s t).1.selected = s.selected := by
  cases h : allowed t s.comm with
  | none => rw [perform_of_refused h]
  | some d => rw [perform_of_allowed h, enterEffects_selected, leaveEffects_eq]

theorem perform_connected (s : State) (t : Trans) : (perform s t).1.connected = s.connected := by
  cases h : allowed t s.comm with
  | none => rw [perform_of_refused h]
  | some d => rw [perform_of_allowed h, enterEffects_connected, leaveEffects_eq]

theorem perform_timers {s : State} {t : Trans} {d : Comm} (h : allowed t s.comm = some d) :
    (perform s t).1.t3Armed = (s.t3Armed && !decide (s.comm = .waitCra) || decide (d = .waitCra)) ∧
    (perform s t).1.delayArmed = (s.delayArmed && !decide (s.comm = .waitDelay) || decide (d = .waitDelay)) := by
  rw [perform_of_allowed h]
  cases d <;> simp [enterEffects_eq, leaveEffects_eq, sendS1F13_eq]

theorem perform_reqfail {s : State} (hc : s.comm = .waitCra) :
    let r := perform s .communicationreqfail
    r.1.comm = .waitDelay ∧ r.1.delayArmed = true ∧ r.1.t3Armed = false := by
  have hal : allowed .communicationreqfail s.comm = some .waitDelay := hc ▸ rfl
  obtain ⟨e3, ed⟩ := perform_timers hal
  exact ⟨by rw [perform_comm, hal]; rfl, by simp [ed], by simp [e3, hc]⟩

theorem perform_waitCra {s : State} {t : Trans} (h : allowed t s.comm = some .waitCra) :
    perform s t = sendS1F13 { leaveEffects s with comm := .waitCra, t3Armed := true } := by
  rw [perform_of_allowed h, enterEffects_eq]

theorem perform_sys (s : State) (t : Trans) : SysOk s (perform s t).1 (perform s t).2 := by
  cases h : allowed t s.comm with
  | none => rw [perform_of_refused h]; exact SysOk.refl s _
  | some d =>
    -- `SysOk` reads `connected`, `mySys`, `queued` of its first argument: leaving a state and switching touch none of them
    rw [perform_of_allowed h]
    have := enterEffects_sys { leaveEffects s with comm := d }
    simpa only [SysOk, leaveEffects_eq] using this

theorem perform_outputs (s : State) (t : Trans) (o : Output) (h : o ∈ (perform s t).2) :
    o = .wrongSource t ∨ (∃ k, o = .txS1F13 k) ∨ o = .blocked ∨
    (o = .evtCommunicating ∧ allowed t s.comm = some .communicating) := by
  cases ha : allowed t s.comm with
  | none =>
    rw [perform_of_refused ha] at h
    exact Or.inl (List.mem_singleton.mp h)
  | some d =>
    rw [perform_of_allowed ha] at h
    rcases enterEffects_outputs _ o h with ho | ho | ⟨ho, hd⟩
    · exact Or.inr (Or.inl ho)
    · exact Or.inr (Or.inr (Or.inl ho))
    · exact Or.inr (Or.inr (Or.inr ⟨ho, congrArg some hd⟩))

theorem onMessage_eq (cfg : Cfg) (s : State) (sf f : Nat) (w : Bool) (sys : Nat) (ck : Option Nat) :
    onMessage cfg s sf f w sys ck =
    match s.comm with
    | .waitCra =>
      if sf = 1 ∧ f = 13 then
        if cfg.commackGate = true ∧ cfg.commackReq ≠ 0 then (s, [.txS1F14 sys cfg.commackReq])
        else ((perform s .s1f13received).1, .txS1F14 sys cfg.commackReq :: (perform s .s1f13received).2)
      else if sf = 1 ∧ f = 14 then
        if cfg.sysChecked = true ∧ s.mySys ≠ some sys then (s, [])
        else match ck with
          | none => (s, [])
          | some 0 => perform s .s1f14received
          | some _ => perform s .communicationreqfail
      else (s, [])
    | .communicating =>
      if hasCb cfg sf f then
        (s, .callback sf f :: if sf = 1 ∧ f = 13 ∧ (1, 13) ∉ cfg.userCbs then [.txS1F14 sys cfg.commackReq] else [])
      else (s, [.unknown sf f w])
    | _ => (s, []) := by
  unfold onMessage
  rw [dispatchRow_eq]
  cases hc : s.comm <;> simp [and_assoc]
  case waitCra => rfl  -- the two sides differ only in the auxiliary `match` on the COMMACK

theorem step_enable (cfg : Cfg) (s : State) : step cfg s .enable = perform s .enable := rfl

theorem step_disable (cfg : Cfg) (s : State) : step cfg s .disable = perform s .disable := rfl

theorem step_t3Expired (cfg : Cfg) (s : State) : step cfg s .t3Expired =
    if s.t3Armed then perform { s with t3Armed := false } .communicationreqfail else (s, []) := by
  cases h : s.t3Armed <;> simp [step, h]

theorem step_delayExpired (cfg : Cfg) (s : State) : step cfg s .delayExpired =
    if s.delayArmed then perform { s with delayArmed := false } .delayexpired else (s, []) := by
  cases h : s.delayArmed <;> simp [step, h]

theorem step_rx (cfg : Cfg) (s : State) (sf f : Nat) (w : Bool) (sys : Nat) (ck : Option Nat) :
    step cfg s (.rx sf f w sys ck) = if s.selected then onMessage cfg s sf f w sys ck else (s, []) := by
  cases h : s.selected <;> simp [step, h]

theorem step_linkConnected (cfg : Cfg) (s : State) : step cfg s .linkConnected =
    if s.connected then (s, []) else ({ s with connected := true, queued := [] }, s.queued.map .txS1F13) := rfl

theorem step_linkSelected (cfg : Cfg) (s : State) : step cfg s .linkSelected =
    if s.selected then (s, []) else
      let r := perform { s with connected := true, selected := true, queued := [] } .select
      (r.1, s.queued.map .txS1F13 ++ r.2) := by
  simp only [step, hooked_comm, selects, Bool.and_self, if_true]

theorem step_linkLost (cfg : Cfg) (s : State) : step cfg s .linkLost =
    if s.connected then
      let s0 := { s with connected := false, selected := false, mySys := if cfg.sysChecked then none else s.mySys }
      if s.comm = .communicating then perform s0 .communicationfail else (s0, [])
    else (s, []) := by
  simp only [step, hooked_disc, forwards, lossStates, Bool.true_and, decide_eq_true_eq]
  cases s.connected <;> rfl

/-- `step` as rules: a step is idle, adjusts the link, or performs one transition (after writing a reply); an inbound message
that performs none leaves the state alone — answering, rejecting or (in COMMUNICATING only) calling back.  The rules say only
what the invariants need, so they admit more than `step` does (the timer idle rules `t3Idle`, `delayIdle` have no guard,
`rxQuiet` fixes the outputs up to their kind, `refused` leaves the COMMACK open): `Step.of_step` holds, its converse does not. -/
inductive Step (cfg : Cfg) (s : State) : Input → State × List Output → Prop
  | enable : Step cfg s .enable (perform s .enable)
  | disable : Step cfg s .disable (perform s .disable)
  | t3 : s.t3Armed = true → Step cfg s .t3Expired (perform { s with t3Armed := false } .communicationreqfail)
  | t3Idle : Step cfg s .t3Expired (s, [])
  | delay : s.delayArmed = true → Step cfg s .delayExpired (perform { s with delayArmed := false } .delayexpired)
  | delayIdle : Step cfg s .delayExpired (s, [])
  | connected : s.connected = false →
      Step cfg s .linkConnected ({ s with connected := true, queued := [] }, s.queued.map .txS1F13)
  | connectedIdle : s.connected = true → Step cfg s .linkConnected (s, [])
  | selected : s.selected = false →
      Step cfg s .linkSelected
        ((perform { s with connected := true, selected := true, queued := [] } .select).1,
         s.queued.map .txS1F13 ++ (perform { s with connected := true, selected := true, queued := [] } .select).2)
  | selectedIdle : s.selected = true → Step cfg s .linkSelected (s, [])
  | lost : s.connected = true → s.comm = .communicating →
      Step cfg s .linkLost
        (perform { s with connected := false, selected := false, mySys := if cfg.sysChecked then none else s.mySys }
          .communicationfail)
  | lostQuiet : s.connected = true → s.comm ≠ .communicating →
      Step cfg s .linkLost
        ({ s with connected := false, selected := false, mySys := if cfg.sysChecked then none else s.mySys }, [])
  | lostIdle : s.connected = false → Step cfg s .linkLost (s, [])
  | rxQuiet {sf f w sys ck} (o) : (∀ x ∈ o, s.selected = true ∧
        (x = .txS1F14 sys cfg.commackReq ∨ x = .unknown sf f w ∨ (x = .callback sf f ∧ s.comm = .communicating))) →
      Step cfg s (.rx sf f w sys ck) (s, o)
  | rx13 {w sys ck} : s.selected = true → s.comm = .waitCra → (cfg.commackGate = true → cfg.commackReq = 0) →
      Step cfg s (.rx 1 13 w sys ck)
        ((perform s .s1f13received).1, .txS1F14 sys cfg.commackReq :: (perform s .s1f13received).2)
  | rx14 {w sys} : s.selected = true → s.comm = .waitCra → (cfg.sysChecked = true → s.mySys = some sys) →
      Step cfg s (.rx 1 14 w sys (some 0)) (perform s .s1f14received)
  | refused {w sys ck} : s.selected = true → s.comm = .waitCra →
      Step cfg s (.rx 1 14 w sys ck) (perform s .communicationreqfail)

theorem Step.of_step (cfg : Cfg) (s : State) (i : Input) : Step cfg s i (step cfg s i) := by
  cases i with
  | enable => exact .enable
  | disable => exact .disable
  | t3Expired =>
    rw [step_t3Expired]
    split
    next ha => exact .t3 ha
    · exact .t3Idle
  | delayExpired =>
    rw [step_delayExpired]
    split
    next ha => exact .delay ha
    · exact .delayIdle
  | linkConnected =>
    rw [step_linkConnected]
    split
    next hcn => exact .connectedIdle hcn
    next hcn => exact .connected (Bool.eq_false_iff.mpr hcn)
  | linkSelected =>
    rw [step_linkSelected]
    split
    next hsl => exact .selectedIdle hsl
    next hsl => exact .selected (Bool.eq_false_iff.mpr hsl)
  | linkLost =>
    rw [step_linkLost]
    cases h : s.connected <;> simp only [Bool.false_eq_true, if_false, if_true]
    · exact .lostIdle h
    · by_cases hc : s.comm = .communicating
      · rw [if_pos hc]; exact .lost h hc
      · rw [if_neg hc]; exact .lostQuiet h hc
  | rx sf f w sys ck =>
    rw [step_rx]
    split
    next hl =>
      rw [onMessage_eq]
      split
      next waitCra =>
        split
        next s1f13 =>
          obtain ⟨rfl, rfl⟩ := s1f13
          split
          next _gateRefuses => exact .rxQuiet _ (by simp [hl])
          next gateOpen => exact .rx13 hl waitCra (by simpa using gateOpen)
        next _ =>
          split
          next s1f14 =>
            obtain ⟨rfl, rfl⟩ := s1f14
            split
            next _foreignSystemBytes => exact .rxQuiet _ (by simp)
            next ownSystemBytes =>
              split
              · exact .rxQuiet _ (by simp)
              · exact .rx14 hl waitCra (by simpa using ownSystemBytes)
              · exact .refused hl waitCra
          next _otherMessage => exact .rxQuiet _ (by simp)
      next communicating =>
        split
        next _hasCallback =>
          refine .rxQuiet _ fun x hx => ⟨hl, ?_⟩
          rcases List.mem_cons.mp hx with rfl | hx
          · exact Or.inr (Or.inr ⟨rfl, communicating⟩)
          · split at hx
            · exact Or.inl (List.mem_singleton.mp hx)
            · cases hx
        next _noCallback => exact .rxQuiet _ (by simp [hl])
      next _otherState _ _ => exact .rxQuiet _ (by simp)
    next _notSelected => exact .rxQuiet _ (by simp)

end SecsModel.Proofs.GemComm
