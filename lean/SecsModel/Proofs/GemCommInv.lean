import SecsModel.Proofs.GemComm
/-!
Invariants and one-step facts of `Model.GemComm.step` (C07): the control invariant over all histories; where the outputs of a step
come from; and the trace side of clause 1 (established only after a completed exchange): `LInv` ties the link fields of the model
to the link the observed trace shows (`Spec.E30Comm.linkState`), `Step.communicating` says how a step can end in COMMUNICATING, and
together they keep `Justified` (`just_step`).
-/
namespace SecsModel.Proofs.GemComm
open SecsModel SecsModel.Spec.E30Comm SecsModel.Model.GemComm

theorem run_induction (cfg : Cfg) {P : State → List Obs → Prop} (h0 : P init [])
    (hstep : ∀ s tr i, P s tr → P (step cfg s i).1 (tr ++ [⟨i, (step cfg s i).2⟩])) (h : List Input) :
    P (run cfg h).1 (run cfg h).2 := by
  unfold run
  generalize init = s, ([] : List Obs) = tr at h0
  induction h generalizing s tr with
  | nil => exact h0
  | cons i is ih => exact ih _ _ (hstep s tr i h0)

theorem run_snoc (cfg : Cfg) (h : List Input) (i : Input) : (run cfg (h ++ [i])).1 = (step cfg (run cfg h).1 i).1 := by
  unfold run
  generalize init = s, ([] : List Obs) = tr
  induction h generalizing s tr with
  | nil => rfl
  | cons x xs ih => exact ih _ _

structure CInv (s : State) : Prop where
  t3 : s.t3Armed = true ↔ s.comm = .waitCra
  dly : s.delayArmed = true ↔ s.comm = .waitDelay
  up : s.comm = .communicating → s.selected = true
  sc : s.selected = true → s.connected = true

theorem cinv_init : CInv init := by
  constructor <;> simp [init]

theorem CInv.down {s : State} (h : CInv s) (hcn : s.connected = false) : s.selected = false :=
  Bool.eq_false_iff.mpr fun hs => Bool.false_ne_true (hcn ▸ h.sc hs)

/-- a transition that is taken establishes the invariant from less: a timer may have been cancelled already, and the link
matters only where COMMUNICATING is entered -/
theorem cinv_of_allowed {s : State} {t : Trans} {d : Comm} (ha : allowed t s.comm = some d)
    (h3 : s.t3Armed = true → s.comm = .waitCra) (hd : s.delayArmed = true → s.comm = .waitDelay)
    (hu : d = .communicating → s.selected = true) (hsc : s.selected = true → s.connected = true) : CInv (perform s t).1 := by
  have hc : (perform s t).1.comm = d := by rw [perform_comm, ha]; rfl
  obtain ⟨e3, ed⟩ := perform_timers ha
  refine ⟨?_, ?_, ?_, by rwa [perform_selected, perform_connected]⟩
  · -- a timer still armed outside its state would contradict `h3` (`hd`)
    rw [e3, hc]
    simpa using fun h h' => absurd (h3 h) h'
  · rw [ed, hc]
    simpa using fun h h' => absurd (hd h) h'
  · rw [hc, perform_selected]
    exact hu

theorem cinv_perform (s : State) (t : Trans) (h : CInv s) (hl : (t = .s1f14received ∨ t = .s1f13received) → s.selected = true) :
    CInv (perform s t).1 := by
  cases ha : allowed t s.comm with
  | none => rw [perform_of_refused ha]; exact h
  | some d => exact cinv_of_allowed ha h.t3.mp h.dly.mp (fun hd => hl (enters_communicating t s.comm (hd ▸ ha))) h.sc

theorem cinv_step {cfg : Cfg} {s : State} {i : Input} {r : State × List Output} (hs : Step cfg s i r) (h : CInv s) :
    CInv r.1 := by
  cases hs with
  | enable | disable => exact cinv_perform s _ h (by simp)
  -- the timer that expired is already cancelled in the state the transition is performed on: its hypothesis is vacuous
  | t3 ha => exact cinv_of_allowed (d := .waitDelay) (h.t3.mp ha ▸ rfl) (h3 := nofun) h.dly.mp (hu := nofun) h.sc
  | delay ha => exact cinv_of_allowed (d := .waitCra) (h.dly.mp ha ▸ rfl) h.t3.mp (hd := nofun) (hu := nofun) h.sc
  | t3Idle | delayIdle | connectedIdle | selectedIdle | lostIdle | rxQuiet => exact h
  | connected => exact ⟨h.t3, h.dly, h.up, fun _ => rfl⟩
  | selected => exact cinv_perform _ _ ⟨h.t3, h.dly, fun _ => rfl, fun _ => rfl⟩ (by simp)
  | lost _ hcm => exact cinv_of_allowed (d := .notCommunicating) (hcm ▸ rfl) h.t3.mp h.dly.mp (hu := nofun) (hsc := nofun)
  | lostQuiet _ hcm => exact ⟨h.t3, h.dly, fun h' => absurd h' hcm, nofun⟩
  | rx13 hl | rx14 hl | refused hl => exact cinv_perform s _ h fun _ => hl

theorem cinv_run (cfg : Cfg) (h : List Input) : CInv (run cfg h).1 :=
  run_induction cfg (P := fun s _ => CInv s) cinv_init (fun s _ i => cinv_step (Step.of_step cfg s i)) h

theorem Step.outputs {cfg : Cfg} {s : State} {i : Input} {r : State × List Output} (hs : Step cfg s i r) {o : Output}
    (h : o ∈ r.2) :
    (∃ s0 t, o ∈ (perform s0 t).2 ∧ s0.comm = s.comm ∧ r.1 = (perform s0 t).1) ∨
    (∃ k, o = .txS1F13 k) ∨
    (s.selected = true ∧ ∃ sf f w sys ck, i = .rx sf f w sys ck ∧
      (o = .txS1F14 sys cfg.commackReq ∨ o = .unknown sf f w ∨ (o = .callback sf f ∧ s.comm = .communicating))) := by
  cases hs with
  | enable | disable | t3 | delay | lost | rx14 | refused => exact Or.inl ⟨_, _, h, rfl, rfl⟩
  | t3Idle | delayIdle | connectedIdle | selectedIdle | lostIdle | lostQuiet => cases h
  | connected =>
    obtain ⟨k, -, rfl⟩ := List.mem_map.mp h
    exact Or.inr (Or.inl ⟨k, rfl⟩)
  | selected =>
    rcases List.mem_append.mp h with h | h
    · obtain ⟨k, -, rfl⟩ := List.mem_map.mp h
      exact Or.inr (Or.inl ⟨k, rfl⟩)
    · exact Or.inl ⟨_, _, h, rfl, rfl⟩
  | rxQuiet o' ho => exact Or.inr (Or.inr ⟨(ho o h).1, _, _, _, _, _, rfl, (ho o h).2⟩)
  | rx13 hl =>
    rcases List.mem_cons.mp h with rfl | h
    · exact Or.inr (Or.inr ⟨hl, _, _, _, _, _, rfl, Or.inl rfl⟩)
    · exact Or.inl ⟨s, _, h, rfl, rfl⟩

theorem step_callback (cfg : Cfg) (s : State) (i : Input) (sf f : Nat) (h : Output.callback sf f ∈ (step cfg s i).2) :
    s.comm = .communicating ∧ s.selected = true ∧ ∃ w sys ck, i = .rx sf f w sys ck := by
  rcases Step.outputs (Step.of_step cfg s i) h with
    ⟨s0, t, ho, -, -⟩ | ⟨k, hk⟩ | ⟨hl, sf', f', w, sys, ck, rfl, hk | hk | ⟨hk, hc⟩⟩
  · rcases perform_outputs s0 t _ ho with h1 | ⟨k, h1⟩ | h1 | ⟨h1, -⟩ <;> cases h1
  all_goals cases hk
  exact ⟨hc, hl, w, sys, ck, rfl⟩

theorem s1f13Ids_append (a b : List Output) : s1f13Ids (a ++ b) = s1f13Ids a ++ s1f13Ids b := by
  induction a with
  | nil => rfl
  | cons x xs ih => cases x <;> simp [s1f13Ids, ih]

theorem s1f13Ids_map (q : List Nat) : s1f13Ids (q.map Output.txS1F13) = q := by
  induction q with
  | nil => rfl
  | cons x xs ih => simp [s1f13Ids, ih]

theorem mem_s1f13Ids {o : List Output} {k : Nat} : k ∈ s1f13Ids o ↔ .txS1F13 k ∈ o := by
  induction o with
  | nil => simp [s1f13Ids]
  | cons x xs ih => cases x <;> simp [s1f13Ids, ih]

/-- the model's link fields are those the trace shows; with the system-bytes check, the outstanding S1F13 was written on this
connection, or sits in the send queue while there is none -/
structure LInv (cfg : Cfg) (s : State) (l : Link) : Prop where
  conn : l.connected = s.connected
  sel : l.selected = s.selected
  my : cfg.sysChecked = true → ∀ k, s.mySys = some k → k ∈ if s.connected then l.ids else s.queued

theorem linv_sysOk {cfg : Cfg} {s s' : State} {l : Link} {o : List Output} (h : LInv cfg s l)
    (hc : s'.connected = s.connected) (hl : s'.selected = s.selected) (hs : SysOk s s' o) :
    LInv cfg s' { l with ids := if l.connected then l.ids ++ s1f13Ids o else l.ids } := by
  refine ⟨h.conn.trans hc.symm, h.sel.trans hl.symm, fun hck k hk => ?_⟩
  have hm := h.my hck k
  rw [hc, ← h.conn]
  cases hcn : l.connected <;> simp only [hcn, ← h.conn, if_true, if_false, Bool.false_eq_true] at hm ⊢
  · -- no connection: the outstanding id is in the send queue, which only grows
    rcases hs.2 k hk with hk | ⟨h1, -⟩ | ⟨-, hk⟩
    · exact hs.1 k (hm hk)
    · rw [← h.conn, hcn] at h1; cases h1
    · exact hk
  · -- connected: it was written before, or is written now
    rcases hs.2 k hk with hk | ⟨-, hk⟩ | ⟨h1, -⟩
    · exact List.mem_append_left _ (hm hk)
    · exact List.mem_append_right _ (mem_s1f13Ids.mpr hk)
    · rw [← h.conn, hcn] at h1; cases h1

theorem linv_step {cfg : Cfg} {s : State} {i : Input} {r : State × List Output} (hs : Step cfg s i r) (l : Link)
    (hc : CInv s) (h : LInv cfg s l) : LInv cfg r.1 (obsStep l ⟨i, r.2⟩) := by
  have quiet := linv_sysOk h rfl rfl (SysOk.refl s [])
  cases hs with
  | enable | disable | rx14 | refused => exact linv_sysOk h (perform_connected ..) (perform_selected ..) (perform_sys ..)
  | t3 => exact linv_sysOk h (perform_connected ..) (perform_selected ..) (perform_sys { s with t3Armed := false } _)
  | delay => exact linv_sysOk h (perform_connected ..) (perform_selected ..) (perform_sys { s with delayArmed := false } _)
  | rx13 =>
    exact linv_sysOk h (perform_connected ..) (perform_selected ..) ((perform_sys ..).mono fun _ => List.mem_cons_of_mem _)
  | t3Idle | delayIdle => exact quiet
  | rxQuiet o => exact linv_sysOk h rfl rfl (SysOk.refl s o)
  | connectedIdle hcn => simpa [obsStep, h.conn.trans hcn] using quiet
  | connected hcn =>
    rw [show obsStep l ⟨.linkConnected, _⟩ = ⟨true, false, s.queued⟩ by simp [obsStep, h.conn.trans hcn, s1f13Ids_map]]
    exact ⟨rfl, (hc.down hcn).symm, fun hck k hk => by simpa [hcn] using h.my hck k hk⟩
  | selectedIdle hsl => simpa [obsStep, h.conn.trans (hc.sc hsl), h.sel.trans hsl] using quiet
  | selected =>
    -- the link comes up (the send queue is written), then `select` is performed on the selected link
    have h0 : LInv cfg { s with connected := true, selected := true, queued := [] }
        ⟨true, true, (if l.connected then l.ids else []) ++ s.queued⟩ := by
      refine ⟨rfl, rfl, fun hck k hk => ?_⟩
      have := h.my hck k hk
      rw [h.conn]
      cases hcn : s.connected <;> rw [hcn] at this
      · exact List.mem_append_right _ this
      · exact List.mem_append_left _ this
    have := linv_sysOk h0 (perform_connected _ .select) (perform_selected ..) (perform_sys ..)
    simpa [obsStep, s1f13Ids_append, s1f13Ids_map] using this
  | lostIdle hcn => exact ⟨hcn.symm, (hc.down hcn).symm, fun hck k hk => by simpa [hcn] using h.my hck k hk⟩
  | lostQuiet => exact ⟨rfl, rfl, fun hck k hk => by simp [hck] at hk⟩
  | lost =>
    have h0 : LInv cfg { s with connected := false, selected := false, mySys := if cfg.sysChecked then none else s.mySys }
        ⟨false, false, []⟩ := ⟨rfl, rfl, fun hck k hk => by simp [hck] at hk⟩
    exact linv_sysOk h0 (perform_connected ..) (perform_selected ..) (perform_sys ..)

theorem perform_comm_stays {s : State} {t : Trans} (h : (perform s t).1.comm = .communicating)
    (h1 : t ≠ .s1f14received) (h2 : t ≠ .s1f13received) : s.comm = .communicating ∧ allowed t .communicating = none := by
  rw [perform_comm] at h
  cases ha : allowed t s.comm with
  | none => rw [ha] at h; exact ⟨h, h ▸ ha⟩
  | some d =>
    rw [ha] at h
    rcases enters_communicating t s.comm (ha.trans (congrArg some h)) with rfl | rfl <;> contradiction

theorem Step.communicating {cfg : Cfg} {s : State} {i : Input} {r : State × List Output} (hs : Step cfg s i r)
    (h : r.1.comm = .communicating) :
    (s.comm = .communicating ∧ i ≠ .disable ∧ (i = .linkLost → s.connected = false)) ∨
    (s.selected = true ∧ ∃ w sys,
      (∃ ck, i = .rx 1 13 w sys ck ∧ .txS1F14 sys cfg.commackReq ∈ r.2 ∧ (cfg.commackGate = true → cfg.commackReq = 0)) ∨
      (i = .rx 1 14 w sys (some 0) ∧ (cfg.sysChecked = true → s.mySys = some sys))) := by
  cases hs with
  | enable | t3 | delay | selected | refused => exact Or.inl ⟨(perform_comm_stays h nofun nofun).1, nofun, nofun⟩
  | disable => cases (perform_comm_stays h nofun nofun).2  -- `disable` is allowed in COMMUNICATING
  | lost => cases (perform_comm_stays h nofun nofun).2  -- `communicationfail` is allowed in COMMUNICATING
  | lostQuiet _ hcm => exact absurd h hcm
  | lostIdle hcn => exact Or.inl ⟨h, nofun, fun _ => hcn⟩
  | t3Idle | delayIdle | connected | connectedIdle | selectedIdle | rxQuiet => exact Or.inl ⟨h, nofun, nofun⟩
  | rx13 hl _ hg => exact Or.inr ⟨hl, _, _, Or.inl ⟨_, rfl, List.mem_cons_self, hg⟩⟩
  | rx14 hl _ hs => exact Or.inr ⟨hl, _, _, Or.inr ⟨rfl, hs⟩⟩

/-- clause 3 of C07, for one step -/
theorem Step.leaves {cfg : Cfg} {s : State} {i : Input} {r : State × List Output} (hs : Step cfg s i r) (hc : CInv s)
    (hi : i = .linkLost ∨ i = .disable) : r.1.comm ≠ .communicating := by
  intro h
  rcases Step.communicating hs h with ⟨hcm, hd, hlost⟩ | ⟨-, w, sys, ⟨ck, rfl, -⟩ | ⟨rfl, -⟩⟩
  · rcases hi with hi | hi
    · exact Bool.false_ne_true (hlost hi ▸ hc.sc (hc.up hcm))
    · exact hd hi
  all_goals rcases hi with hi | hi <;> cases hi

theorem linkState_snoc (tr : List Obs) (o : Obs) : linkState (tr ++ [o]) = obsStep (linkState tr) o := by
  simp [linkState, List.foldl_append]

theorem just_extend {strict : Bool} {tr : List Obs} (x : Obs) (h : Justified strict tr)
    (h1 : x.input ≠ .linkLost) (h2 : x.input ≠ .disable) : Justified strict (tr ++ [x]) := by
  obtain ⟨tr₁, e, tr₂, rfl, hu, hc, hr⟩ := h
  refine ⟨tr₁, e, tr₂ ++ [x], by simp, hu, hc, ?_⟩
  intro y hy
  rcases List.mem_append.mp hy with hy | hy
  · exact hr y hy
  · simp at hy; subst hy; exact ⟨h1, h2⟩

theorem just_new {strict : Bool} {tr : List Obs} (e : Obs) (hu : isUp tr = true) (hc : Completes strict tr e) :
    Justified strict (tr ++ [e]) :=
  ⟨tr, e, [], rfl, hu, hc, by simp⟩

/-- clause 1 of C07 is kept by every step -/
theorem just_step {cfg : Cfg} (hck : cfg.commackGate = true ∨ cfg.commackReq = 0) {s : State} {i : Input}
    {r : State × List Output} (hs : Step cfg s i r) {tr : List Obs} (hc : CInv s) (hl : LInv cfg s (linkState tr))
    (hj : s.comm = .communicating → Justified cfg.sysChecked tr) (h : r.1.comm = .communicating) :
    Justified cfg.sysChecked (tr ++ [⟨i, r.2⟩]) := by
  rcases Step.communicating hs h with ⟨hcm, -⟩ | ⟨hsl, w, sys, ⟨ck, rfl, ho, hg⟩ | ⟨rfl, hm⟩⟩
  · exact just_extend _ (hj hcm) (fun hi => Step.leaves hs hc (.inl hi) h) (fun hi => Step.leaves hs hc (.inr hi) h)
  · have h0 : cfg.commackReq = 0 := hck.elim hg id
    exact just_new _ (hl.sel.trans hsl) (Or.inl ⟨w, sys, ck, rfl, h0 ▸ ho⟩)
  · refine just_new _ (hl.sel.trans hsl) (Or.inr ⟨w, sys, rfl, fun hk => ?_⟩)
    simpa [hc.sc hsl, onLink] using hl.my hk sys (hm hk)

end SecsModel.Proofs.GemComm
