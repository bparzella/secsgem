import SecsModel.Proofs.PyLemmas
import SecsModel.Gen.SecsIHeader
/-! The generated `Gen.SecsIHeader.encode/decode` against SEMI E4, on the plan of `Proofs/HsmsHeader.lean` without a separate
record of the standard: `specBytes`, over five naturals and three flags, is the E4 reading of the ten bytes. -/
namespace SecsModel.Proofs.SecsIHdr
open SecsModel SecsModel.Gen

/-- field ranges of SEMI E4 §7: 15-bit device id, 7-bit stream, 8-bit function, 15-bit block number, 32-bit system bytes -/
structure InRange (h : SecsIHeader) : Prop where
  system : 0 ≤ h.system ∧ h.system < 2^32
  device : 0 ≤ h.device_id ∧ h.device_id < 2^15
  stream : 0 ≤ h.stream ∧ h.stream < 2^7
  function : 0 ≤ h.function ∧ h.function < 2^8
  block : 0 ≤ h.block ∧ h.block < 2^15

instance (h : SecsIHeader) : Decidable (InRange h) :=
  if c : (0 ≤ h.system ∧ h.system < 2^32) ∧ (0 ≤ h.device_id ∧ h.device_id < 2^15) ∧ (0 ≤ h.stream ∧ h.stream < 2^7)
      ∧ (0 ≤ h.function ∧ h.function < 2^8) ∧ (0 ≤ h.block ∧ h.block < 2^15)
  then isTrue ⟨c.1, c.2.1, c.2.2.1, c.2.2.2.1, c.2.2.2.2⟩
  else isFalse (fun r => c ⟨r.system, r.device, r.stream, r.function, r.block⟩)

def specBytes (sy dv st fn bl : Nat) (r w e : Bool) : Bytes :=
  be 2 (dv + (if r then 32768 else 0)) ++ be 1 (st + (if w then 128 else 0)) ++ be 1 fn
    ++ be 2 (bl + (if e then 32768 else 0)) ++ be 4 sy

theorem pack_spec (sy dv st fn bl : Nat) (r w e : Bool)
    (hsy : sy < 2^32) (hdv : dv < 2^15) (hst : st < 2^7) (hfn : fn < 2^8) (hbl : bl < 2^15) :
    Py.packBE [(2, ((dv + (if r then 32768 else 0) : Nat) : Int)), (1, ((st + (if w then 128 else 0) : Nat) : Int)), (1, (fn : Int)),
      (2, ((bl + (if e then 32768 else 0) : Nat) : Int)), (4, (sy : Int))] = .ok (specBytes sy dv st fn bl r w e) := by
  have p5 := Py.packBE_cons_nat 4 sy [] [] hsy rfl
  have p4 := Py.packBE_cons_nat 2 _ _ _ (Py.flag_lt e hbl) p5
  have p3 := Py.packBE_cons_nat 1 fn _ _ hfn p4
  have p2 := Py.packBE_cons_nat 1 _ _ _ (Py.flag_lt w hst) p3
  have p1 := Py.packBE_cons_nat 2 _ _ _ (Py.flag_lt r hdv) p2
  rw [p1, specBytes]
  simp only [List.append_assoc, List.append_nil]

theorem encode_nat (sy dv st fn bl : Nat) (r w e : Bool)
    (hsy : sy < 2^32) (hdv : dv < 2^15) (hst : st < 2^7) (hfn : fn < 2^8) (hbl : bl < 2^15) :
    SecsIHeader.encode ⟨sy, dv, st, fn, bl, r, w, e⟩ = .ok (specBytes sy dv st fn bl r w e) := by
  simp only [SecsIHeader.encode, Py.ite_bor_bit 32768 15 rfl dv hdv, Py.ite_bor_bit 128 7 rfl st hst,
    Py.ite_bor_bit 32768 15 rfl bl hbl]
  exact pack_spec sy dv st fn bl r w e hsy hdv hst hfn hbl

theorem encode_length (h : SecsIHeader) (hb : Bytes) (he : h.encode = .ok hb) : hb.length = 10 :=
  Py.packBE_length _ _ he

theorem encode_allBytes (h : SecsIHeader) (hb : Bytes) (he : h.encode = .ok hb) : AllBytes hb :=
  Py.packBE_allBytes _ _ he

theorem decode_fields (bs : Bytes) (v0 v1 v2 v3 v4 : Nat)
    (h : Py.unpackBE [2, 1, 1, 2, 4] bs = .ok [(v0 : Int), (v1 : Int), (v2 : Int), (v3 : Int), (v4 : Int)]) :
    SecsIHeader.decode bs = .ok ⟨v4, ((v0 % 32768 : Nat) : Int), ((v1 % 128 : Nat) : Int), v2, ((v3 % 32768 : Nat) : Int),
      decide (v0 / 32768 % 2 = 1), decide (v1 / 128 % 2 = 1), decide (v3 / 32768 % 2 = 1)⟩ := by
  simp only [SecsIHeader.decode, h, Py.band_below 32767 32768 15 rfl rfl, Py.band_below 127 128 7 rfl rfl,
    Py.shr_band_bit 32768 15 rfl, Py.shr_band_bit 128 7 rfl]

theorem decode_spec (sy dv st fn bl : Nat) (r w e : Bool)
    (hsy : sy < 2^32) (hdv : dv < 2^15) (hst : st < 2^7) (hfn : fn < 2^8) (hbl : bl < 2^15) :
    SecsIHeader.decode (specBytes sy dv st fn bl r w e) = .ok ⟨sy, dv, st, fn, bl, r, w, e⟩ := by
  have u := Py.unpackBE_packBE _ _ (pack_spec sy dv st fn bl r w e hsy hdv hst hfn hbl)
  rw [decode_fields _ _ _ _ _ _ u, Py.flag_mod r hdv, Py.flag_mod w hst, Py.flag_mod e hbl, Py.flag_div r hdv, Py.flag_div w hst, Py.flag_div e hbl]

theorem be2_ofBe (a b : Nat) (ha : a < 256) (hb : b < 256) : be 2 (ofBe [a, b]) = [a, b] :=
  be_ofBe [a, b] (AllBytes.cons_iff.mpr ⟨ha, AllBytes.cons_iff.mpr ⟨hb, .nil⟩⟩)

theorem exists_specBytes (bs : Bytes) (hl : bs.length = 10) (hb : AllBytes bs) :
    ∃ sy dv st fn bl r w e, sy < 2^32 ∧ dv < 2^15 ∧ st < 2^7 ∧ fn < 2^8 ∧ bl < 2^15 ∧ bs = specBytes sy dv st fn bl r w e := by
  obtain ⟨v0, t1, h0, a1, l1, rfl⟩ := exists_be_append 2 8 bs hb hl
  obtain ⟨v1, t2, h1, a2, l2, rfl⟩ := exists_be_append 1 7 t1 a1 l1
  obtain ⟨fn, t3, h2, a3, l3, rfl⟩ := exists_be_append 1 6 t2 a2 l2
  obtain ⟨v3, t4, h3, a4, l4, rfl⟩ := exists_be_append 2 4 t3 a3 l3
  obtain ⟨sy, t5, h4, _, l5, rfl⟩ := exists_be_append 4 0 t4 a4 l4
  cases List.eq_nil_of_length_eq_zero l5
  obtain ⟨dv, r, hdv, rfl⟩ := Py.exists_flag (p := 32768) h0
  obtain ⟨st, w, hst, rfl⟩ := Py.exists_flag (p := 128) h1
  obtain ⟨bl, e, hbl, rfl⟩ := Py.exists_flag (p := 32768) h3
  exact ⟨sy, dv, st, fn, bl, r, w, e, h4, hdv, hst, h2, hbl, by simp only [specBytes, List.append_assoc, List.append_nil]⟩

/-- `decode` accepts every ten bytes, what it returns is in range, and `encode` of it gives the ten bytes back: no header has a
second byte form.  (The other direction, `decode (encode h) = .ok h` for in-range `h`, is `encode_nat` with `decode_spec`.) -/
theorem encode_decode (bs : Bytes) (hl : bs.length = 10) (hb : AllBytes bs) :
    ∃ h, SecsIHeader.decode bs = .ok h ∧ InRange h ∧ h.encode = .ok bs := by
  obtain ⟨sy, dv, st, fn, bl, r, w, e, hsy, hdv, hst, hfn, hbl, rfl⟩ := exists_specBytes bs hl hb
  exact ⟨_, decode_spec sy dv st fn bl r w e hsy hdv hst hfn hbl, ⟨Py.range_nat hsy, Py.range_nat hdv, Py.range_nat hst, Py.range_nat hfn, Py.range_nat hbl⟩,
    encode_nat sy dv st fn bl r w e hsy hdv hst hfn hbl⟩

end SecsModel.Proofs.SecsIHdr
