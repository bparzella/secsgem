import SecsModel.Proofs.CodecHeader
import SecsModel.Proofs.CodecSpec
import SecsModel.Model.Var
/-! The variables-API model against Spec.E5: the generated class constants are those of E5, `encode` is `Spec.E5.encode` on accepted values, and what the
reference decoder reads (finite floats) is accepted; then (`CodecCanon`) what it yields is in normal form with a canonical encoding (so re-encoding erases the
sender's choice of length bytes). -/
namespace SecsModel.Proofs.CodecVar
open SecsModel SecsModel.Spec.E5 SecsModel.Model.Var SecsModel.Proofs.CodecElem SecsModel.Proofs.CodecSpec SecsModel.Proofs.CodecHeader

/-- the projection of a generated row that E5 fixes -/
def rowProj (r : Gen.VarTypes.Row) : String × Nat × Nat × Int × Int := (r.text_code, r.format_code.toNat, r.bytes.toNat, r.min, r.max)

theorem row_code (t : Ty) : (rowOf t).format_code = (t.code : Int) := by cases t <;> rfl
theorem row_list_code : Gen.VarTypes.cArray.format_code = ((0 : Nat) : Int) ∧ Gen.VarTypes.cList.format_code = ((0 : Nat) : Int) := ⟨rfl, rfl⟩

theorem row_bytes (t : Ty) (h : Numeric t) : (rowOf t).bytes = (t.width : Int) := by
  rcases h.eq_one with rfl | rfl | rfl | rfl | rfl | rfl | rfl | rfl | rfl | rfl <;> rfl

theorem pack_uint (t : Ty) (hk : t.kind = .uint) (v : Int) :
    pack (rowOf t).struct_code v = if 0 ≤ v ∧ v < ((256 ^ t.width : Nat) : Int) then .ok (be t.width v.toNat) else .error .structError := by
  rcases Ty.int_cases.1 hk with rfl | rfl | rfl | rfl <;> rfl

theorem pack_sint (t : Ty) (hk : t.kind = .sint) (v : Int) :
    pack (rowOf t).struct_code v = if -((256 ^ t.width / 2 : Nat) : Int) ≤ v ∧ v < ((256 ^ t.width / 2 : Nat) : Int)
      then .ok (be t.width (toTwos t.width v)) else .error .structError := by
  rcases Ty.int_cases.2 hk with rfl | rfl | rfl | rfl <;> rfl

theorem pack_eq (t : Ty) (e : Int) (h : Numeric t) (hok : okElem t e = true) :
    pack (rowOf t).struct_code e = elemEnc t e := by
  simp only [elemEnc, hok, Bool.true_eq_false, if_false]
  rcases h.cases with (hk | hk) | (rfl | rfl)
  · obtain ⟨hlo, hhi⟩ := sint_facts t hk
    have : t.lo ≤ e ∧ e ≤ t.hi := by simpa only [okElem, hk, decide_eq_true_eq] using hok
    rw [pack_sint t hk, if_pos (by omega)]; simp only [hk]
  · obtain ⟨hlo, hhi⟩ := uint_facts t hk
    have : t.lo ≤ e ∧ e ≤ t.hi := by simpa only [okElem, hk, decide_eq_true_eq] using hok
    rw [pack_uint t hk, if_pos (by omega)]; simp only [hk]
  · rfl
  · rfl

theorem jis_table_eq : Gen.Jis8.table = (List.range 256).map jisChar := by decide +kernel

theorem jis_table_get (b : Nat) (hb : b < 256) : Gen.Jis8.table[b]? = some (jisChar b) := by
  rw [jis_table_eq]; simp [hb]

/-- the inverse of the generated table is the Spec's `jisByte` (in particular the table is injective: `make_encoding_map` drops nothing) -/
theorem jisEncode_eq (c : Int) : jisEncode c = jisByte c := by
  have key : ∀ b ∈ List.range 256,
      ((((Gen.Jis8.table.getD b 0 : Nat) : Int) == c && decide (b < Gen.Jis8.table.length)) = true ↔ jisByte c = some b) := by
    intro b hb
    have hb : b < 256 := List.mem_range.mp hb
    simp only [jis_table_eq, List.getD_eq_getElem?_getD, List.getElem?_map, List.getElem?_range hb, List.length_map, List.length_range,
      Option.map_some, Option.getD_some, hb, decide_true, Bool.and_true, beq_iff_eq]
    exact ⟨fun h => h ▸ jisByte_jisChar b hb, fun h => (jisByte_spec c b h).2⟩
  rw [jisEncode]
  generalize hj : List.find? _ (List.range 256) = o
  cases o with
  | some b =>
    have h1 := List.find?_some hj
    have h2 := List.mem_of_find?_eq_some hj
    exact ((key b h2).mp h1).symm
  | none =>
    cases hb : jisByte c with
    | none => rfl
    | some b =>
      have hr := List.mem_range.mpr (jisByte_spec c b hb).1
      exact absurd ((key b hr).mpr hb) (List.find?_eq_none.mp hj b hr)

theorem string_coding : codingOf (rowOf .a).coding = .latin1 := by decide
theorem jis8_coding : codingOf (rowOf .j).coding = .jis8 := by decide

theorem num_range (t : Ty) (h : t.kind = .sint ∨ t.kind = .uint) : (rowOf t).is_float = false ∧ (rowOf t).min = t.lo ∧ (rowOf t).max = t.hi := by
  cases t <;> simp [Ty.kind] at h <;> exact ⟨rfl, rfl, rfl⟩

theorem float_range (t : Ty) (h : t.kind = .f32 ∨ t.kind = .f64) : (rowOf t).is_float = true ∧ (rowOf t).min = t.lo ∧ (rowOf t).max = t.hi := by
  cases t <;> simp [Ty.kind] at h <;> exact ⟨rfl, rfl, rfl⟩

theorem outOfRange_int {t : Ty} (h : IsInt t) (e : Int) : outOfRange (rowOf t) e = false ↔ t.lo ≤ e ∧ e ≤ t.hi := by
  obtain ⟨hf, hmin, hmax⟩ := num_range t h
  simp only [outOfRange, hf, hmin, hmax, Bool.false_eq_true, if_false, Bool.or_eq_false_iff, decide_eq_false_iff_not]
  omega

theorem float_row {t : Ty} (ht : IsFloat t) :
    (rowOf t).min.toNat = 2^63 + t.hi.toNat ∧ (rowOf t).max.toNat = t.hi.toNat ∧ t.hi.toNat < 2047 * 2^52 := by
  rcases ht with rfl | rfl <;> decide

/-- the `_min/_max` test of a float class lets through NaN and every magnitude up to the largest finite value of the format -/
theorem outOfRange_float {t : Ty} (ht : IsFloat t) (e : Int) :
    outOfRange (rowOf t) e = false ↔ (IEEE.isNaN64 e.toNat = true ∨ e.toNat % 2^63 ≤ t.hi.toNat) := by
  have hf := (float_range t ht.kind).1
  obtain ⟨hmin, hmax, hlt⟩ := float_row ht
  simp only [outOfRange, hf, if_true, hmin, hmax]
  cases hn : IEEE.isNaN64 e.toNat with
  | true => simp only [IEEE.range_check_nan _ _ _ hn, true_or]
  | false => simp only [IEEE.range_check _ _ hlt hn, Bool.false_eq_true, false_or]

theorem acc_float {t : Ty} (ht : IsFloat t) (e : Int) :
    accElem t e = true ↔ (0 ≤ e ∧ e < 18446744073709551616) ∧ (IEEE.isNaN64 e.toNat = true ∨ e.toNat % 2^63 ≤ t.hi.toNat) := by
  rw [← outOfRange_float ht]
  rcases ht with rfl | rfl <;> simp only [accElem, Ty.kind, Bool.and_eq_true, decide_eq_true_eq, Bool.not_eq_true']

theorem acc_int {t : Ty} (h : IsInt t) (e : Int) : accElem t e = true ↔ t.lo ≤ e ∧ e ≤ t.hi := by
  rw [← outOfRange_int h]
  rcases h with h | h <;> simp only [accElem, h, Bool.not_eq_true']

theorem acc_inRange {t : Ty} (h : Numeric t) {e : Int} (ha : accElem t e = true) :
    outOfRange (rowOf t) e = false := by
  rcases h.cases with hi | hf
  · exact (outOfRange_int hi e).mpr ((acc_int hi e).mp ha)
  · exact (outOfRange_float hf e).mpr ((acc_float hf e).mp ha).2

theorem acc_b (e : Int) : accElem .b e = decide (0 ≤ e ∧ e < 256) := rfl

theorem acc_a (e : Int) : accElem .a e = decide (0 ≤ e ∧ e < 256) := by
  simp only [accElem, Ty.kind, string_coding, encodeChar]
  by_cases h : 0 ≤ e ∧ e < 256
  · rw [if_pos h, decide_eq_true h]
  · rw [if_neg h, decide_eq_false h]

theorem acc_j (e : Int) : accElem .j e = (jisByte e).isSome := by
  simp only [accElem, Ty.kind, jis8_coding, encodeChar, jisEncode_eq]
  cases jisByte e <;> rfl

theorem acc_ok {t : Ty} {e : Int} (h : accElem t e = true) : okElem t e = true := by
  induction t using Ty.kind_cases with
  | b =>
    have : 0 ≤ e ∧ e < 256 := of_decide_eq_true h
    exact decide_eq_true (p := 0 ≤ e ∧ e ≤ 255) (by omega)
  | bool =>
    have : e = 0 ∨ e = 1 := of_decide_eq_true h
    exact decide_eq_true (p := 0 ≤ e ∧ e ≤ 1) (by omega)
  | a =>
    have : 0 ≤ e ∧ e < 256 := of_decide_eq_true (acc_a e ▸ h)
    exact decide_eq_true (p := 0 ≤ e ∧ e ≤ 255) (by omega)
  | j => rw [acc_j] at h; exact h
  | num t hk =>
    rcases hk.cases with hi | hf
    · rw [okElem_int hi]; exact decide_eq_true ((acc_int hi e).mp h)
    · rcases hf with rfl | rfl <;> exact decide_eq_true ((acc_float (by decide) e).mp h).1

theorem packAll_eq (t : Ty) (h : Numeric t) :
    ∀ (es : List Int), (∀ e ∈ es, accElem t e = true) → packAll (rowOf t).struct_code es = encElems t es
  | [], _ => rfl
  | e :: es, ha => by
    have he := acc_ok (ha e (by simp))
    have ih := packAll_eq t h es (fun x hx => ha x (by simp [hx]))
    simp only [packAll, encElems, pack_eq t e h he, ih]
    rfl

theorem text_eq (t : Ty) (h : t = .a ∨ t = .j) :
    ∀ (es : List Int), (∀ e ∈ es, accElem t e = true) → encodeText (codingOf (rowOf t).coding) es = encElems t es
  | [], _ => rfl
  | e :: es, ha => by
    have he := acc_ok (ha e (by simp))
    have ih := text_eq t h es (fun x hx => ha x (by simp [hx]))
    simp only [encodeText, encElems, ih]
    rcases h with rfl | rfl
    · have c : 0 ≤ e ∧ e ≤ 255 := of_decide_eq_true he
      have c' : 0 ≤ e ∧ e < 256 := by omega
      simp only [string_coding, encodeChar, c', and_self, if_true, elemEnc, he, Bool.true_eq_false, if_false, Ty.kind, Ty.width]
      rw [be_single (by omega)]
      cases encElems Ty.a es <;> rfl
    · simp only [jis8_coding, encodeChar, jisEncode_eq, elemEnc, he, Bool.true_eq_false, if_false, Ty.kind]
      cases hj : jisByte e with
      | none => rfl
      | some b => cases encElems Ty.j es <;> rfl

theorem bytes_eq : ∀ (es : List Int), (∀ e ∈ es, accElem .b e = true) → Py.bytesOf es = encElems .b es
  | [], _ => rfl
  | e :: es, ha => by
    have hacc : 0 ≤ e ∧ e < 256 := of_decide_eq_true (ha e (by simp))
    have ih := bytes_eq es (fun x hx => ha x (by simp [hx]))
    have ok := acc_ok (ha e (by simp))
    simp only [Py.bytesOf, hacc, and_self, if_true, encElems, elemEnc, ok, Bool.true_eq_false, if_false, Ty.kind, Ty.width, ih]
    rw [be_single (by omega)]
    cases encElems Ty.b es <;> rfl

theorem bools_eq : ∀ (es : List Int), (∀ e ∈ es, accElem .bool e = true) →
    (.ok (es.map (fun e => if e ≠ 0 then 1 else 0)) : Except Err Bytes) = encElems .bool es
  | [], _ => rfl
  | e :: es, ha => by
    have hacc : e = 0 ∨ e = 1 := of_decide_eq_true (ha e (by simp))
    have ih := bools_eq es (fun x hx => ha x (by simp [hx]))
    have ok := acc_ok (ha e (by simp))
    simp only [encElems, elemEnc, ok, Bool.true_eq_false, if_false, Ty.kind, Ty.width, ← ih, List.map_cons]
    rcases hacc with rfl | rfl <;> rfl

/-- an accepted element always has an E5 encoding (in particular an accepted F4 never overflows binary32) -/
theorem elemEnc_ok (t : Ty) (e : Int) (h : accElem t e = true) : ∃ b, elemEnc t e = .ok b := by
  have hok := acc_ok h
  simp only [elemEnc, hok, Bool.true_eq_false, if_false]
  induction t using Ty.kind_cases with
  | b | bool | a => exact ⟨_, rfl⟩
  | j =>
    rw [acc_j] at h
    obtain ⟨b, hb⟩ := Option.isSome_iff_exists.mp h
    exact ⟨[b], by simp only [Ty.kind, hb]⟩
  | num t hk =>
    rcases hk.cases with (hk | hk) | (rfl | rfl)
    · simp only [hk]; exact ⟨_, rfl⟩
    · simp only [hk]; exact ⟨_, rfl⟩
    · obtain ⟨f, hf⟩ : ∃ f, IEEE.round32 e.toNat = .ok f := by
        rcases ((acc_float (.inl rfl) e).mp h).2 with h3 | h3
        · exact IEEE.round32_nan _ h3
        · obtain ⟨f, hf, _⟩ := IEEE.round32_of_le_max _ h3
          exact ⟨f, hf⟩
      exact ⟨be 4 f, by simp only [Ty.kind, hf]⟩
    · exact ⟨_, rfl⟩

theorem encElems_ok (t : Ty) : ∀ (es : List Int), (∀ e ∈ es, accElem t e = true) → ∃ p, encElems t es = .ok p
  | [], _ => ⟨[], rfl⟩
  | e :: es, ha => by
    obtain ⟨p, hp⟩ := encElems_ok t es (fun x hx => ha x (by simp [hx]))
    obtain ⟨b, hb⟩ := elemEnc_ok t e (ha e (by simp))
    exact ⟨b ++ p, by simp only [encElems, hb, hp]⟩

/- The payload is obtained as `.ok p` first (`encElems_ok`): then the model's "header, then payload" and the Spec's "payload, then header" fail in
the same cases, and what is left in each branch is a case split on the header. -/
theorem encodeLeaf_exact (t : Ty) (es : List Int) (ha : ∀ e ∈ es, accElem t e = true) :
    encodeLeaf t es = Spec.E5.encode (.item t es) := by
  obtain ⟨c1, _⟩ := code_lt t
  obtain ⟨p, hp⟩ := encElems_ok t es ha
  have hl := (encElems_spec t es p hp).1
  have hw1 : t.width = 1 → ((es.length : Nat) : Int) = ((p.length : Nat) : Int) := by intro h; rw [hl, h, Nat.mul_one]
  simp only [encodeLeaf, Spec.E5.encode, row_code, hp]
  induction t using Ty.kind_cases with
  | b =>
    simp only [Ty.kind, hw1 rfl, var_header_exact Ty.b.code p.length c1, bytes_eq es ha, hp]
    cases header Ty.b.code p.length <;> rfl
  | bool =>
    have := bools_eq es ha
    rw [hp] at this
    injection this with this
    simp only [Ty.kind, hw1 rfl, var_header_exact Ty.bool.code p.length c1, this]
    cases header Ty.bool.code p.length <;> rfl
  | a | j =>
    simp only [Ty.kind, hw1 rfl, var_header_exact _ p.length c1, text_eq _ (by decide) es ha, hp]
    generalize header _ _ = h
    cases h <;> rfl
  | num t hk =>
    have e1 : (es.length : Int) * (rowOf t).bytes = ((p.length : Nat) : Int) := by
      rw [row_bytes t hk, hl]; exact (Int.natCast_mul _ _).symm
    have hpk := packAll_eq t hk es ha
    rcases hk with h | h | h | h <;>
      simp only [h, e1, var_header_exact t.code p.length c1, hpk, hp] <;>
      cases header t.code p.length <;> rfl

mutual
theorem encode_exact (v : Val) (ha : Accepted v) : Model.Var.encode v = Spec.E5.encode v :=
  match v, ha with
  | .item t es, ha => by rw [Model.Var.encode]; exact encodeLeaf_exact t es ha
  | .list xs, ha => by
    simp only [Model.Var.encode, Spec.E5.encode, row_list_code.1, var_header_exact 0 xs.length (by omega), encodeList_exact xs ha]
    cases header 0 xs.length <;> rfl
theorem encodeList_exact (xs : List Val) (ha : AcceptedList xs) : Model.Var.encodeList xs = Spec.E5.encodeList xs :=
  match xs, ha with
  | [], _ => rfl
  | x :: xs, ha => by
    simp only [Model.Var.encodeList, Spec.E5.encodeList, encode_exact x ha.1, encodeList_exact xs ha.2]
    rfl
end

theorem dec_elem_acc (t : Ty) (c : Bytes) (hl : c.length = t.width) (hab : AllBytes c) (hfin : finElem t (elemDec t c) = true) :
    accElem t (elemDec t c) = true ∧ normElem t (elemDec t c) = elemDec t c := by
  have hlt := ofBe_lt c hab
  rw [hl] at hlt
  have hb : t.width = 1 → ofBe c < 256 := fun h => by rw [h] at hlt; omega
  induction t using Ty.kind_cases with
  | b =>
    have hc := hb rfl
    have hacc : 0 ≤ ((ofBe c : Nat) : Int) ∧ ((ofBe c : Nat) : Int) < 256 := by omega
    exact ⟨by rw [acc_b]; exact decide_eq_true hacc, rfl⟩
  | bool =>
    refine ⟨?_, rfl⟩
    simp only [accElem, Ty.kind, elemDec]
    split <;> decide
  | a =>
    have hc := hb rfl
    have hacc : 0 ≤ ((ofBe c : Nat) : Int) ∧ ((ofBe c : Nat) : Int) < 256 := by omega
    exact ⟨by rw [acc_a]; exact decide_eq_true hacc, rfl⟩
  | j =>
    have hinv := jisByte_jisChar (ofBe c) (hb rfl)
    exact ⟨by rw [acc_j]; simp only [elemDec, Ty.kind, hinv, Option.isSome_some], rfl⟩
  | num t hk =>
    rcases hk.cases with (hk | hk) | (rfl | rfl)
    · obtain ⟨hlo, hhi⟩ := sint_facts t hk
      obtain ⟨r1, r2⟩ := ofTwos_range t.width (ofBe c) (width_pos t) hlt
      refine ⟨(acc_int (.inl hk) _).mpr ?_, normElem_of_ne_f4 _ _ (ne_f4_of_int (.inl hk))⟩
      simp only [elemDec, hk]; omega
    · obtain ⟨hlo, hhi⟩ := uint_facts t hk
      refine ⟨(acc_int (.inr hk) _).mpr ?_, normElem_of_ne_f4 _ _ (ne_f4_of_int (.inr hk))⟩
      simp only [elemDec, hk]; omega
    · have hfin' : IEEE.isFinite64 (IEEE.widen (ofBe c)) = true := by simpa only [finElem, Ty.kind, elemDec, Int.toNat_natCast] using hfin
      have hfin32 := IEEE.widen_finite _ hfin'
      obtain ⟨hlt64, hmx⟩ := IEEE.widen_le_max (ofBe c) hfin32
      refine ⟨(acc_float (.inl rfl) _).mpr ⟨?_, .inr ?_⟩, ?_⟩
      · simp only [elemDec, Ty.kind]; omega
      · simp only [elemDec, Ty.kind, Int.toNat_natCast]; exact hmx
      · simp only [normElem, elemDec, Ty.kind, Int.toNat_natCast]
        rw [IEEE.round32_widen (ofBe c) (by simp only [Ty.width] at hlt; omega) hfin32]
    · have hfin' : ofBe c % 2^63 < 2047 * 2^52 := by
        simp only [finElem, Ty.kind, elemDec, Int.toNat_natCast] at hfin
        exact of_decide_eq_true hfin
      refine ⟨(acc_float (.inr rfl) _).mpr ⟨?_, .inr ?_⟩, rfl⟩
      · simp only [elemDec, Ty.kind]; simp only [Ty.width] at hlt; omega
      · simp only [elemDec, Ty.kind, Int.toNat_natCast, Ty.hi]; omega

theorem decElems_acc (t : Ty) (p : Bytes) (hm : p.length % t.width = 0) (hab : AllBytes p)
    (hfin : ∀ e ∈ decElems t p, finElem t e = true) : ∀ e ∈ decElems t p, accElem t e = true ∧ normElem t e = e := by
  intro e he
  obtain ⟨c, l1, l2, rfl⟩ := decElems_mem hm hab he
  exact dec_elem_acc t c l1 l2 (hfin _ he)

end SecsModel.Proofs.CodecVar

namespace SecsModel.Proofs.CodecCanon
open SecsModel SecsModel.Spec.E5 SecsModel.Model.Var SecsModel.Proofs.CodecElem SecsModel.Proofs.CodecSpec SecsModel.Proofs.CodecVar

mutual
/- One recursion for the three things `decoded_valid` needs: an encoding is obtained from acceptance (`encElems_ok` for the elements of an item), and
`norm v = v` turns `spec_sound` for that encoding into `Valid`. -/
theorem wire_canonical {p : Bytes} {v : Val} : Wire p v → v.Finite → Accepted v ∧ norm v = v ∧ ∃ cs, Spec.E5.encode v = .ok cs
  | .item (t := t) (p := p) hd hm hp rfl, hfin => by
    have hall := decElems_acc t p hm hp hfin
    obtain ⟨q, hq⟩ := encElems_ok t _ (fun e he => (hall e he).1)
    have hql := (encElems_spec t _ q hq).1
    rw [decElems_length, Nat.div_mul_cancel (Nat.dvd_of_mod_eq_zero hm)] at hql
    obtain ⟨hd', hh'⟩ := header_succeeds t.code q.length (hql ▸ hd.len_le)
    refine ⟨fun e he => (hall e he).1, ?_, ⟨hd' ++ q, by simp only [Spec.E5.encode, hq, hh']⟩⟩
    rw [norm, List.map_congr_left (fun e he => (hall e he).2), List.map_id']
  | .list (xs := xs) hd hl, hfin => by
    obtain ⟨a1, a2, cs, a3⟩ := wireList_canonical hl hfin
    obtain ⟨hd', hh'⟩ := header_succeeds 0 xs.length hd.len_le
    exact ⟨a1, by rw [norm, a2], ⟨hd' ++ cs, by simp only [Spec.E5.encode, hh', a3]⟩⟩
theorem wireList_canonical {ps : Bytes} {xs : List Val} : WireList ps xs → FiniteList xs →
    AcceptedList xs ∧ normList xs = xs ∧ ∃ cs, Spec.E5.encodeList xs = .ok cs
  | .nil, _ => ⟨trivial, rfl, [], rfl⟩
  | .cons h hs, hfin => by
    obtain ⟨a1, a2, c1, a3⟩ := wire_canonical h hfin.1
    obtain ⟨b1, b2, c2, b3⟩ := wireList_canonical hs hfin.2
    exact ⟨⟨a1, b1⟩, by rw [normList, a2, b2], ⟨c1 ++ c2, by simp only [Spec.E5.encodeList, a3, b3]⟩⟩
end

theorem decoded_valid (bs : Bytes) (v : Val) (rest : Bytes) (h : decodeAny bs = some (v, rest)) (hab : AllBytes bs) (hfin : v.Finite) :
    Accepted v ∧ ∃ cs, Spec.E5.encode v = .ok cs ∧ Valid cs v := by
  obtain ⟨p, rfl, hw⟩ := decItem_wire _ h hab
  obtain ⟨ha, hn, cs, hc⟩ := wire_canonical hw hfin
  have := spec_sound v cs [] hc
  rw [hn, List.append_nil] at this
  exact ⟨ha, cs, hc, this⟩

end SecsModel.Proofs.CodecCanon
