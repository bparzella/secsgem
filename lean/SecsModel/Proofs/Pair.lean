import SecsModel.Model.Pair
/-!
# Proofs.Pair — the safety invariant of `Model.Pair` and what establishes communication

`Inv` ties each end's communication state to its session state and the two sessions to each other and to the channels.  A `Pair` is
read and written through `get` / `set` / `send` / `popInbox` (lemmas `get_*`), so that `Inv` is handled per side: `Inv.set` is the frame
lemma (one end replaced by a consistent one), `Inv.send`, `Inv.popInbox`, `Inv.linkDown` cover the channels.  A step is taken apart by one
line (`cases s <;> simp only [step] at hs <;> split at hs <;> cases hs`: one goal per kind of step, its guard as hypothesis).
-/
namespace SecsModel.Proofs.Pair
open SecsModel.Model.Pair

/-- every maximal run of `deliver` steps (any interleaving of the two directions) from `p` ends, within `fuel` deliveries,
in a state where both ends are COMMUNICATING and nothing is in flight -/
def allDeliveriesConverge : Nat → Pair → Bool
  | 0, p => p.ab.isEmpty && p.ba.isEmpty && bothComm p
  | fuel + 1, p =>
    if p.ab.isEmpty && p.ba.isEmpty then bothComm p
    else
      (match step p (.deliver .A) with | some p' => allDeliveriesConverge fuel p' | none => true) &&
      (match step p (.deliver .B) with | some p' => allDeliveriesConverge fuel p' | none => true)

structure Inv (p : Pair) : Prop where
  commA : p.a.comm = .comm → p.a.conn = .sel
  commB : p.b.comm = .comm → p.b.conn = .sel
  link : p.a.conn = .nc ↔ p.b.conn = .nc
  idle : p.a.conn = .nc → p.ab = [] ∧ p.ba = []
  disA : p.a.comm = .dis ↔ p.a.en = false
  disB : p.b.comm = .dis ↔ p.b.en = false
  upA : p.a.conn ≠ .nc → p.a.en = true ∧ p.b.en = true

@[simp] theorem get_set (p : Pair) (x y : Side) (e : End) : (p.set x e).get y = if y = x then e else p.get y := by
  cases x <;> cases y <;> rfl
@[simp] theorem get_send (p : Pair) (x y : Side) (ms : List Msg) : (p.send x ms).get y = p.get y := by
  cases x <;> cases y <;> rfl
@[simp] theorem get_popInbox (p : Pair) (x y : Side) : (p.popInbox x).get y = p.get y := by
  cases x <;> cases y <;> rfl
@[simp] theorem get_linkDown (p : Pair) (y : Side) : (linkDown p).get y = closeEnd (p.get y) := by
  cases y <;> rfl

theorem closeEnd_comm (e : End) : (closeEnd e).comm ≠ .comm := by
  unfold closeEnd; split <;> simp [*]
theorem closeEnd_dis (e : End) : (closeEnd e).comm = .dis ↔ e.comm = .dis := by
  unfold closeEnd; split <;> simp [*]

theorem handle_preserves (e : End) (m : Msg) (h : e.comm = .comm → e.conn = .sel) :
    (handle e m).1.en = e.en ∧ ((handle e m).1.conn = .nc ↔ e.conn = .nc)
    ∧ ((handle e m).1.comm = .comm → (handle e m).1.conn = .sel)
    ∧ ((handle e m).1.comm = .dis ↔ e.comm = .dis) := by
  obtain ⟨en, act, c, cm⟩ := e
  rcases m with _ | _ | _ | ⟨_ | _⟩ <;> cases c <;> cases cm <;> simp [handle, selected, handleData] at h ⊢

theorem handle_comm (e : End) (m : Msg) (h1 : (handle e m).1.comm = .comm) (h0 : e.comm ≠ .comm) :
    e.conn = .sel ∧ e.comm = .wcra ∧ (m = .s1f13 ∨ m = .s1f14 true) := by
  obtain ⟨en, act, c, cm⟩ := e
  rcases m with _ | _ | _ | ⟨_ | _⟩ <;> cases c <;> cases cm <;> simp_all [handle, selected, handleData]

theorem Inv.sel_of_comm {p : Pair} (h : Inv p) (x : Side) : (p.get x).comm = .comm → (p.get x).conn = .sel := by
  cases x
  · exact h.commA
  · exact h.commB

theorem Inv.dis_iff {p : Pair} (h : Inv p) (x : Side) : (p.get x).comm = .dis ↔ (p.get x).en = false := by
  cases x
  · exact h.disA
  · exact h.disB

theorem Inv.nc_iff {p : Pair} (h : Inv p) (x y : Side) : (p.get x).conn = .nc ↔ (p.get y).conn = .nc := by
  cases x <;> cases y
  · exact Iff.rfl
  · exact h.link
  · exact h.link.symm
  · exact Iff.rfl

/-- `Inv` has no `upB`: B's half comes through `link` -/
theorem Inv.en_of_up {p : Pair} (h : Inv p) (x : Side) (hc : (p.get x).conn ≠ .nc) : (p.get x).en = true := by
  cases x
  · exact (h.upA hc).1
  · exact (h.upA (mt h.link.mp hc)).2

theorem Inv.up_of_inbox {p : Pair} (h : Inv p) (x : Side) {m : Msg} {rest : List Msg} (hi : p.inbox x = m :: rest) :
    (p.get x).conn ≠ .nc := by
  intro c
  have := h.idle ((h.nc_iff x .A).mp c)
  cases x <;> simp_all [Pair.inbox]

theorem Inv.set {p : Pair} (h : Inv p) (x : Side) (e : End) (hconn : e.conn = .nc ↔ (p.get x).conn = .nc)
    (hcomm : e.comm = .comm → e.conn = .sel) (hdis : e.comm = .dis ↔ e.en = false) (hen : e.conn ≠ .nc → e.en = true) :
    Inv (p.set x e) := by
  cases x
  · exact { commA := hcomm, commB := h.commB, link := hconn.trans h.link, idle := fun c => h.idle (hconn.mp c),
            disA := hdis, disB := h.disB, upA := fun c => ⟨hen c, (h.upA (mt hconn.mpr c)).2⟩ }
  · exact { commA := h.commA, commB := hcomm, link := h.link.trans hconn.symm, idle := h.idle, disA := h.disA, disB := hdis,
            upA := fun c => ⟨(h.upA c).1, hen (mt (fun k => h.link.mpr (hconn.mp k)) c)⟩ }

theorem Inv.setComm {p : Pair} (h : Inv p) (x : Side) (c : Comm) (h0 : (p.get x).comm ≠ .dis) (hc : c ≠ .comm) (hd : c ≠ .dis) :
    Inv (p.set x { p.get x with comm := c }) :=
  have hen : (p.get x).en = true := (Bool.not_eq_false _).mp (mt (h.dis_iff x).mpr h0)
  h.set x _ (hconn := Iff.rfl) (hcomm := (absurd · hc)) (hdis := ⟨(absurd · hd), fun e => absurd (hen.symm.trans e) nofun⟩)
    (hen := fun _ => hen)

theorem Inv.send {p : Pair} (h : Inv p) (x : Side) (ms : List Msg) (hup : (p.get x).conn ≠ .nc) : Inv (p.send x ms) := by
  have hA : p.a.conn ≠ .nc := mt (h.nc_iff .A x).mp hup
  cases x <;> exact { h with idle := fun c => absurd c hA }

theorem Inv.sendIf {p : Pair} (h : Inv p) (c : Prop) [Decidable c] (x : Side) (ms : List Msg) (hup : c → (p.get x).conn ≠ .nc) :
    Inv (if c then p.send x ms else p) := by
  split
  · exact h.send x ms (hup ‹_›)
  · exact h

theorem Inv.popInbox {p : Pair} (h : Inv p) (x : Side) : Inv (p.popInbox x) := by
  cases x
  · exact { h with idle := fun c => ⟨(h.idle c).1, congrArg List.tail (h.idle c).2⟩ }
  · exact { h with idle := fun c => ⟨congrArg List.tail (h.idle c).1, (h.idle c).2⟩ }

theorem Inv.linkDown {p : Pair} (h : Inv p) : Inv (linkDown p) where
  commA := (absurd · (closeEnd_comm _))
  commB := (absurd · (closeEnd_comm _))
  link := ⟨fun _ => rfl, fun _ => rfl⟩
  idle := fun _ => ⟨rfl, rfl⟩
  disA := (closeEnd_dis _).trans h.disA
  disB := (closeEnd_dis _).trans h.disB
  upA := (absurd rfl ·)

theorem inv_init (aActive : Bool) : Inv (init aActive) := by
  constructor <;> simp [init]

theorem inv_step (p p' : Pair) (s : Step) (h : Inv p) (hs : step p s = some p') : Inv p' := by
  cases s <;> simp only [step] at hs <;> split at hs <;> cases hs
  case enable x _ => exact h.set x _ (hconn := Iff.rfl) (hcomm := nofun) (hdis := ⟨nofun, nofun⟩) (hen := fun _ => rfl)
  case disable x _ =>
    split
    · exact h.linkDown.set x _ (hconn := Iff.rfl) (hcomm := nofun) (hdis := ⟨fun _ => rfl, fun _ => rfl⟩)
        (hen := (absurd (get_linkDown p x ▸ rfl) ·))
    · next hc =>
      exact h.set x _ (hconn := Iff.rfl) (hcomm := nofun) (hdis := ⟨fun _ => rfl, fun _ => rfl⟩)
        (hen := (absurd (Decidable.not_not.mp hc) ·))
  case linkUp hc =>
    simp only [Bool.and_eq_true, decide_eq_true_eq] at hc
    obtain ⟨⟨⟨ea, eb⟩, ha⟩, hb⟩ := hc
    have h0 : Inv { p with a := { p.a with conn := .ns }, b := { p.b with conn := .ns }, ab := [], ba := [] } :=
      { commA := fun c => absurd ((h.commA c).symm.trans ha) nofun, commB := fun c => absurd ((h.commB c).symm.trans hb) nofun,
        link := ⟨nofun, nofun⟩, idle := nofun, disA := h.disA, disB := h.disB, upA := fun _ => ⟨ea, eb⟩ }
    exact (h0.sendIf _ .A _ fun _ => nofun).sendIf _ .B _ fun _ => by split <;> exact nofun
  case linkDown => exact h.linkDown
  case t3 x hc => exact h.setComm x .wdelay (by simp [hc]) nofun nofun
  case delay x hc => exact (h.setComm x .wcra (by simp [hc]) nofun nofun).sendIf _ x _ fun hn => by simpa using hn
  next x _ m rest hin =>
    have hup := h.up_of_inbox x hin
    obtain ⟨hen', hconn', hcomm', hdis'⟩ := handle_preserves (p.get x) m (h.sel_of_comm x)
    have h1 : Inv ((p.popInbox x).set x (handle (p.get x) m).1) :=
      (h.popInbox x).set x _ (hconn := by simpa using hconn') (hcomm := hcomm') (hdis := by rw [hdis', hen']; exact h.dis_iff x)
        (hen := fun _ => hen'.trans (h.en_of_up x hup))
    exact h1.send x _ (by simpa [hconn'] using hup)

theorem run_induction {P : Pair → Prop} (hstep : ∀ p s p', step p s = some p' → P p → P p') :
    ∀ (ss : List Step) (p p' : Pair), P p → run p ss = some p' → P p'
  | [], _, _, h, hr => by cases hr; exact h
  | s :: ss, p, p', h, hr => by
    simp only [run] at hr
    split at hr
    · next q hq => exact run_induction hstep ss q p' (hstep p s q hq h) hr
    · cases hr

theorem inv_run (ss : List Step) (p p' : Pair) (h : Inv p) (hr : run p ss = some p') : Inv p' :=
  run_induction (fun p s p' hs h => inv_step p p' s h hs) ss p p' h hr

theorem step_comm {p p' : Pair} {s : Step} (hs : step p s = some p') (x : Side) (hne : s ≠ .deliver x) :
    (p'.get x).comm = (p.get x).comm ∨ (p'.get x).comm ≠ .comm := by
  have hset : ∀ (y : Side) (c : Comm) (e : End), c ≠ .comm → e.comm = c →
      ((p.set y e).get x).comm = (p.get x).comm ∨ ((p.set y e).get x).comm ≠ .comm := by
    intro y c e hc he
    rw [get_set]; split
    · exact .inr (he ▸ hc)
    · exact .inl rfl
  cases s <;> simp only [step] at hs <;> split at hs <;> cases hs
  case enable y _ => exact hset y .notc _ nofun rfl
  case disable y _ =>
    rw [get_set]; split
    · exact .inr nofun
    · split
      · exact .inr (get_linkDown p x ▸ closeEnd_comm _)
      · exact .inl rfl
  case linkUp => exact .inl (by split <;> split <;> cases x <;> rfl)
  case linkDown => exact .inr (get_linkDown p x ▸ closeEnd_comm _)
  case t3 y _ => exact hset y .wdelay _ nofun rfl
  case delay y _ =>
    have := hset y .wcra { p.get y with comm := .wcra } nofun rfl
    split
    · rwa [get_send]
    · exact this
  next y _ m rest _ =>
    rw [get_send, get_set, if_neg fun e : x = y => hne (e ▸ rfl), get_popInbox]
    exact .inl rfl

end SecsModel.Proofs.Pair
