import SecsModel.Proofs.PyLemmas
import SecsModel.Gen.HsmsHeader
import SecsModel.Spec.E37Frame
/-! The generated `Gen.HsmsHeader.encode/decode` against SEMI E37, on two levels.  `decode` has to be described on *every* ten bytes,
so the SType may only be required to fit a byte, which `Spec.E37.Hdr.InRange` cannot say; and with `Nat` arguments the `Int` casts of
the generated code are syntactic.  Hence a level of six separate naturals and the W flag: `specBytes` is `Spec.E37.headerBytes` with the record
taken apart (`specBytes_eq`, by `rfl`), and `encode_nat`, `decode_spec`, `exists_specBytes` speak of it.  The record level
(`encode_ofSpec`, `decode_ofSpec`, and for generated headers `encode_layout`, `decode_layout`) follows through `ofSpec`/`toSpec`. -/
namespace SecsModel.Proofs.HsmsHdr
open SecsModel SecsModel.Gen

/-- field ranges of SEMI E37 §8.2 on the generated (Python-`int`) header -/
structure InRange (h : HsmsHeader) : Prop where
  system : 0 ≤ h.system ∧ h.system < 2^32
  device : 0 ≤ h.device_id ∧ h.device_id < 2^16
  stream : 0 ≤ h.stream ∧ h.stream < 2^7
  function : 0 ≤ h.function ∧ h.function < 2^8
  ptype : 0 ≤ h.p_type ∧ h.p_type < 2^8
  stype : HsmsSType.valid h.s_type = true

instance (h : HsmsHeader) : Decidable (InRange h) :=
  if c : (0 ≤ h.system ∧ h.system < 2^32) ∧ (0 ≤ h.device_id ∧ h.device_id < 2^16) ∧ (0 ≤ h.stream ∧ h.stream < 2^7)
      ∧ (0 ≤ h.function ∧ h.function < 2^8) ∧ (0 ≤ h.p_type ∧ h.p_type < 2^8) ∧ HsmsSType.valid h.s_type = true
  then isTrue ⟨c.1, c.2.1, c.2.2.1, c.2.2.2.1, c.2.2.2.2.1, c.2.2.2.2.2⟩
  else isFalse (fun r => c ⟨r.system, r.device, r.stream, r.function, r.ptype, r.stype⟩)

/-- By position: `HsmsHeader` is ⟨system, device_id, stream, function, requires_response, p_type, s_type⟩,
`Spec.E37.Hdr` is ⟨session, w, stream, function, ptype, stype, system⟩. -/
def toSpec (h : HsmsHeader) : Spec.E37.Hdr :=
  ⟨h.device_id.toNat, h.requires_response, h.stream.toNat, h.function.toNat, h.p_type.toNat, h.s_type.toNat, h.system.toNat⟩

def ofSpec (h : Spec.E37.Hdr) : HsmsHeader :=
  ⟨h.system, h.session, h.stream, h.function, h.w, h.ptype, h.stype⟩

theorem stypes_eq : HsmsSType.values = Spec.E37.stypes.map (fun (n : Nat) => (n : Int)) := by decide

theorem valid_iff (x : Int) : HsmsSType.valid x = true ↔ ∃ n ∈ Spec.E37.stypes, (n : Int) = x := by
  simp only [HsmsSType.valid, stypes_eq, List.contains_eq_mem, decide_eq_true_eq, List.mem_map]

theorem valid_nat (n : Nat) : HsmsSType.valid (n : Int) = true ↔ n ∈ Spec.E37.stypes := by
  simp only [valid_iff, Int.natCast_inj, exists_eq_right]

theorem stype_lt {n : Nat} : n ∈ Spec.E37.stypes → n < 2^8 := by
  revert n; decide

theorem valid_toNat {x : Int} (h : HsmsSType.valid x = true) : x.toNat ∈ Spec.E37.stypes ∧ (x.toNat : Int) = x := by
  obtain ⟨n, hn, rfl⟩ := (valid_iff x).mp h
  exact ⟨hn, rfl⟩

theorem inRange_toSpec (h : HsmsHeader) (hr : InRange h) : (toSpec h).InRange :=
  ⟨Py.toNat_lt hr.device, Py.toNat_lt hr.stream, Py.toNat_lt hr.function, Py.toNat_lt hr.ptype,
    (valid_toNat hr.stype).1, Py.toNat_lt hr.system⟩

theorem inRange_ofSpec (h : Spec.E37.Hdr) (hr : h.InRange) : InRange (ofSpec h) :=
  ⟨Py.range_nat hr.system, Py.range_nat hr.session, Py.range_nat hr.stream, Py.range_nat hr.function, Py.range_nat hr.ptype,
    (valid_nat _).mpr hr.stype⟩

theorem toSpec_ofSpec (h : Spec.E37.Hdr) : toSpec (ofSpec h) = h := by
  cases h; simp [toSpec, ofSpec]

theorem ofSpec_toSpec (h : HsmsHeader) (hr : InRange h) : ofSpec (toSpec h) = h := by
  cases h
  simp only [toSpec, ofSpec, Int.toNat_of_nonneg hr.system.1, Int.toNat_of_nonneg hr.device.1, Int.toNat_of_nonneg hr.stream.1,
    Int.toNat_of_nonneg hr.function.1, Int.toNat_of_nonneg hr.ptype.1, (valid_toNat hr.stype).2]

def specBytes (sy dv st fn pt ty : Nat) (w : Bool) : Bytes :=
  be 2 dv ++ be 1 (st + (if w then 128 else 0)) ++ be 1 fn ++ be 1 pt ++ be 1 ty ++ be 4 sy

theorem specBytes_eq (h : Spec.E37.Hdr) :
    Spec.E37.headerBytes h = specBytes h.system h.session h.stream h.function h.ptype h.stype h.w := rfl

theorem pack_spec (sy dv st fn pt ty : Nat) (w : Bool)
    (hsy : sy < 2^32) (hdv : dv < 2^16) (hst : st < 2^7) (hfn : fn < 2^8) (hpt : pt < 2^8) (hty : ty < 2^8) :
    Py.packBE [(2, (dv : Int)), (1, ((st + (if w then 128 else 0) : Nat) : Int)), (1, (fn : Int)), (1, (pt : Int)), (1, (ty : Int)),
      (4, (sy : Int))] = .ok (specBytes sy dv st fn pt ty w) := by
  have p6 := Py.packBE_cons_nat 4 sy [] [] hsy rfl
  have p5 := Py.packBE_cons_nat 1 ty _ _ hty p6
  have p4 := Py.packBE_cons_nat 1 pt _ _ hpt p5
  have p3 := Py.packBE_cons_nat 1 fn _ _ hfn p4
  have p2 := Py.packBE_cons_nat 1 _ _ _ (Py.flag_lt w hst) p3
  have p1 := Py.packBE_cons_nat 2 dv _ _ hdv p2
  rw [p1, specBytes]
  simp only [List.append_assoc, List.append_nil]

theorem encode_nat (sy dv st fn pt ty : Nat) (w : Bool)
    (hsy : sy < 2^32) (hdv : dv < 2^16) (hst : st < 2^7) (hfn : fn < 2^8) (hpt : pt < 2^8) (hty : ty < 2^8) :
    HsmsHeader.encode { system := sy, device_id := dv, stream := st, function := fn, requires_response := w, p_type := pt, s_type := ty } =
      .ok (specBytes sy dv st fn pt ty w) := by
  simp only [HsmsHeader.encode, Py.ite_bor_bit 128 7 rfl st hst]
  exact pack_spec sy dv st fn pt ty w hsy hdv hst hfn hpt hty

theorem decode_fields (bs : Bytes) (v0 v1 v2 v3 v4 v5 : Nat)
    (h : Py.unpackBE [2, 1, 1, 1, 1, 4] bs = .ok [(v0 : Int), (v1 : Int), (v2 : Int), (v3 : Int), (v4 : Int), (v5 : Int)]) :
    HsmsHeader.decode bs = if HsmsSType.valid (v4 : Int) then
        .ok { system := v5, device_id := v0, stream := ((v1 % 128 : Nat) : Int), function := v2,
              requires_response := decide (v1 / 128 % 2 = 1), p_type := v3, s_type := v4 }
      else .error .valueError := by
  simp only [HsmsHeader.decode, h, Py.band_below 127 128 7 rfl rfl, Py.shr_band_bit 128 7 rfl]

theorem decode_spec (sy dv st fn pt ty : Nat) (w : Bool)
    (hsy : sy < 2^32) (hdv : dv < 2^16) (hst : st < 2^7) (hfn : fn < 2^8) (hpt : pt < 2^8) (hty : ty < 2^8) :
    HsmsHeader.decode (specBytes sy dv st fn pt ty w) =
      if HsmsSType.valid (ty : Int) then
        .ok { system := sy, device_id := dv, stream := st, function := fn, requires_response := w, p_type := pt, s_type := ty }
      else .error .valueError := by
  have u := Py.unpackBE_packBE _ _ (pack_spec sy dv st fn pt ty w hsy hdv hst hfn hpt hty)
  rw [decode_fields _ _ _ _ _ _ _ u, Py.flag_mod w hst, Py.flag_div w hst]

theorem exists_specBytes (bs : Bytes) (hl : bs.length = 10) (hb : AllBytes bs) :
    ∃ sy dv st fn pt ty w, sy < 2^32 ∧ dv < 2^16 ∧ st < 2^7 ∧ fn < 2^8 ∧ pt < 2^8 ∧ ty < 2^8 ∧ bs = specBytes sy dv st fn pt ty w := by
  obtain ⟨dv, t1, h0, a1, l1, rfl⟩ := exists_be_append 2 8 bs hb hl
  obtain ⟨v1, t2, h1, a2, l2, rfl⟩ := exists_be_append 1 7 t1 a1 l1
  obtain ⟨fn, t3, h2, a3, l3, rfl⟩ := exists_be_append 1 6 t2 a2 l2
  obtain ⟨pt, t4, h3, a4, l4, rfl⟩ := exists_be_append 1 5 t3 a3 l3
  obtain ⟨ty, t5, h4, a5, l5, rfl⟩ := exists_be_append 1 4 t4 a4 l4
  obtain ⟨sy, t6, h5, _, l6, rfl⟩ := exists_be_append 4 0 t5 a5 l5
  cases List.eq_nil_of_length_eq_zero l6
  obtain ⟨st, w, hst, rfl⟩ := Py.exists_flag (p := 128) h1
  exact ⟨sy, dv, st, fn, pt, ty, w, h5, h0, hst, h2, h3, h4, by simp only [specBytes, List.append_assoc, List.append_nil]⟩

theorem encode_ofSpec (h : Spec.E37.Hdr) (hr : h.InRange) : (ofSpec h).encode = .ok (Spec.E37.headerBytes h) := by
  rw [specBytes_eq]
  exact encode_nat h.system h.session h.stream h.function h.ptype h.stype h.w hr.system hr.session hr.stream hr.function hr.ptype
    (stype_lt hr.stype)

theorem decode_ofSpec (h : Spec.E37.Hdr) (hr : h.InRange) : HsmsHeader.decode (Spec.E37.headerBytes h) = .ok (ofSpec h) := by
  rw [specBytes_eq]
  have := decode_spec h.system h.session h.stream h.function h.ptype h.stype h.w hr.system hr.session hr.stream hr.function hr.ptype
    (stype_lt hr.stype)
  rwa [if_pos ((valid_nat _).mpr hr.stype)] at this

theorem encode_layout (h : HsmsHeader) (hr : InRange h) : h.encode = .ok (Spec.E37.headerBytes (toSpec h)) := by
  have := encode_ofSpec _ (inRange_toSpec h hr)
  rwa [ofSpec_toSpec h hr] at this

theorem decode_layout (h : HsmsHeader) (hr : InRange h) : HsmsHeader.decode (Spec.E37.headerBytes (toSpec h)) = .ok h := by
  have := decode_ofSpec _ (inRange_toSpec h hr)
  rwa [ofSpec_toSpec h hr] at this

end SecsModel.Proofs.HsmsHdr
