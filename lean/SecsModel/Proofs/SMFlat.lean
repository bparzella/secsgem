import SecsModel.Proofs.SM
/-!
# Proofs.SMFlat — flat machines with arbitrary nested requests from `enter` and `called` handlers

One induction over the fuel of five of the six mutually recursive engine functions (`flat_all`; `leave`, which runs no callback
here, is `leave_flat`).  Nothing may be registered on a *leave* event (`FlatH.noLeave`): the engine reads `old_state` after `leave`
returned, so a transition performed by a leave handler is overwritten (see `Props.C18.witness_leave_handler`).
-/
namespace SecsModel.Proofs.SMFlat
open SecsModel.Model.SM SecsModel.Proofs.SM

variable {m : MDef} {h : Handlers}

/-- The event sequences a flat machine can record, starting in `c` and ending in `c'`: each performed transition —
requested from outside or by a handler — contributes exactly one `leave` of the state it was requested in, one `enter`
of its destination and one `called`, its source check having passed in the state at that moment.
`es1` = what the destination's enter handlers requested, `es2` = what the called handlers requested, `es3` = the following requests. -/
inductive Traces (m : MDef) : Nat → List Ev → Nat → Prop
  | nil {c} : Traces m c [] c
  | cons {c name srcs dst es1 c1 es2 c2 es3 c3} :
      lookup m name = some (srcs, dst) → srcs.contains c = true →
      Traces m dst es1 c1 → Traces m c1 es2 c2 → Traces m c2 es3 c3 →
      Traces m c (.leave c :: .enter dst :: (es1 ++ .called name :: (es2 ++ es3))) c3

theorem traces_append {c c1 c2 : Nat} {es es' : List Ev} (h1 : Traces m c es c1) (h2 : Traces m c1 es' c2) :
    Traces m c (es ++ es') c2 := by
  induction h1 with
  | nil => exact h2
  | cons hl hc t1 t2 _ _ _ ih3 =>
    have := Traces.cons hl hc t1 t2 (ih3 h2)
    simpa [List.append_assoc] using this

/-- a flat machine with no callback at all on its `leave` events (more than "no request from a leave handler", and all the shipped
control machine needs) -/
structure FlatH (m : MDef) (h : Handlers) : Prop where
  flat : isFlat m
  noLeave : ∀ s, h (.leave s) = []

theorem inv_flat (hf : isFlat m) (st : St) : Inv m st ↔ ∀ x, st.active x = decide (x = st.cur) := by
  unfold SecsModel.Model.SM.Inv
  rw [chain_none (hf st.cur)]
  constructor
  · intro hi x; rw [hi x]; simp
  · intro hi x; rw [hi x]; simp

abbrev Keeps (m : MDef) (Q : St → Prop) : Out → Prop := Ends (fun e s => e = .fuel ∨ Inv m s) Q

theorem walk_flat (hf : isFlat m) {s : Nat} {other : Option Nat} {xs : List Nat} (hw : Walk m s other xs) : xs = [s] := by
  cases hw with
  | root => rfl
  | stop => rfl
  | up hp => rw [hf] at hp; cases hp

theorem leave_flat (H : FlatH m h) (f : Nat) (st : St) (dest : Option Nat) (hinv : Inv m st) :
    Keeps m (fun s1 => s1.cur = st.cur ∧ (∀ x, s1.active x = false) ∧ s1.log = st.log ++ [.leave st.cur])
      (leave m h f st st.cur dest) := by
  refine (leave_quiet (fun _ => .inl rfl) (fun s cb hcb => by simp [H.noLeave] at hcb) f st st.cur dest).mono fun s1 ⟨xs, hw, e⟩ => ?_
  cases walk_flat H.flat hw
  subst e
  refine ⟨rfl, fun x => ?_, rfl⟩
  have := (inv_flat H.flat st).mp hinv x
  show setAll st.active [st.cur] false x = false
  rw [setAll_apply, this]
  by_cases hx : x = st.cur <;> simp [hx]

def Traced (m : MDef) (c : Nat) (log : List Ev) (st' : St) : Prop :=
  Inv m st' ∧ ∃ es, st'.log = log ++ es ∧ Traces m c es st'.cur

structure FlatOk (m : MDef) (h : Handlers) (f : Nat) : Prop where
  perform : ∀ st name, Inv m st → Keeps m (fun st' => Inv m st' ∧ ∃ srcs dst es1 c1 es2,
    lookup m name = some (srcs, dst) ∧ srcs.contains st.cur = true ∧ Traces m dst es1 c1 ∧ Traces m c1 es2 st'.cur ∧
    st'.log = st.log ++ (.leave st.cur :: .enter dst :: (es1 ++ .called name :: es2))) (perform m h f st name)
  performAll : ∀ st names, Inv m st → Keeps m (Traced m st.cur st.log) (performAll m h f st names)
  runCallbacks : ∀ st cbs, Inv m st → Keeps m (Traced m st.cur st.log) (runCallbacks m h f st cbs)
  fire : ∀ st ev, Inv m st → Keeps m (Traced m st.cur (st.log ++ [ev])) (fire m h f st ev)
  /-- `enter` is called on the new current state, every flag cleared by the preceding `leave` -/
  enter : ∀ st src, (∀ x, st.active x = false) →
    Keeps m (Traced m st.cur (st.log ++ [.enter st.cur])) (enter m h f st st.cur src)

theorem flat_all (H : FlatH m h) (f : Nat) : FlatOk m h f := by
  induction f with
  | zero => exact ⟨fun _ _ _ => .inl rfl, fun _ _ _ => .inl rfl, fun _ _ _ => .inl rfl, fun _ _ _ => .inl rfl, fun _ _ _ => .inl rfl⟩
  | succ f ih =>
    refine ⟨fun st name hinv => ?_, fun st names hinv => ?_, fun st cbs hinv => ?_, fun st ev hinv => ?_, fun st src hclr => ?_⟩
    · cases hl : lookup m name with
      | none => rw [perform_unknown hl]; exact Ends.fail.mpr (.inr hinv)
      | some sd =>
        obtain ⟨srcs, dst⟩ := sd
        cases hc : srcs.contains st.cur with
        | false => rw [perform_wrongSource hl hc]; exact Ends.fail.mpr (.inr hinv)
        | true =>
          rw [perform_allowed hl hc]
          refine (leave_flat H f st (some dst) hinv).bind fun s1 ⟨c1, a1, l1⟩ => ?_
          refine (ih.enter { s1 with cur := dst } (some s1.cur) a1).bind fun s2 ⟨i2, es1, hlog1, tr1⟩ => ?_
          refine (ih.fire s2 (.called name) i2).mono fun st' ⟨i3, es2, hlog2, tr2⟩ => ?_
          exact ⟨i3, srcs, dst, es1, s2.cur, es2, rfl, hc, tr1, tr2, by rw [hlog2, hlog1]; simp [l1]⟩
    · cases names with
      | nil => exact ⟨hinv, [], by simp, Traces.nil⟩
      | cons nm rest =>
        rw [performAll_cons]
        refine (ih.perform st nm hinv).bind fun s1 ⟨i1, srcs, dst, es1, c1, es2, hl, hc, tr1, tr2, hlog⟩ => ?_
        refine (ih.performAll s1 rest i1).mono fun st' ⟨i3, es3, hlog3, tr3⟩ => ?_
        exact ⟨i3, _, by rw [hlog3, hlog]; simp, Traces.cons hl hc tr1 tr2 tr3⟩
    · cases cbs with
      | nil => exact ⟨hinv, [], by simp, Traces.nil⟩
      | cons cb rest =>
        rw [runCallbacks_cons]
        refine (ih.performAll st (cb st) hinv).bind fun s1 ⟨i1, es1, hlog1, tr1⟩ => ?_
        refine (ih.runCallbacks s1 rest i1).mono fun st' ⟨i3, es3, hlog3, tr3⟩ => ?_
        exact ⟨i3, es1 ++ es3, by rw [hlog3, hlog1]; simp, traces_append tr1 tr3⟩
    · exact ih.runCallbacks { st with log := st.log ++ [ev] } (h ev) hinv
    · have hinv0 : Inv m { st with active := setFlag st.active st.cur true } := by
        rw [inv_flat H.flat]
        intro x
        by_cases hx : x = st.cur <;> simp [setFlag, hx, hclr x]
      rw [enter_root (H.flat st.cur)]
      exact ih.fire _ _ hinv0

end SecsModel.Proofs.SMFlat
