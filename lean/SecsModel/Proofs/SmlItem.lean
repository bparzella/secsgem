import SecsModel.Proofs.SmlTok
/-!
# Proofs.SmlItem — what C15 assumes of float text (`FloatLaws`) and of an item under a defect variant (`safeItem`), the token list
of a printed item (`toksOf`), and `tokGo (toSml … ++ rest) [] none = toksOf … ++ tokGo rest [] none`
-/
namespace SecsModel.Proofs.Sml
open SecsModel.Model.Sml

/-- the assumptions on the abstract float text: for every finite double the text is non-empty, free of whitespace / brackets /
quotes, and `float()` reads it back bit for bit.  "Finite" is `b % 2 ^ 63 ≤ 0x7FEFFFFFFFFFFFFF`, the bit pattern of DBL_MAX:
`fltInBounds .f8 b` written out. -/
structure FloatLaws (fmtF : Nat → Text) (parseF : Text → Option Nat) : Prop where
  plain : ∀ b, b < 2 ^ 64 → b % 2 ^ 63 ≤ 0x7FEFFFFFFFFFFFFF → fmtF b ≠ [] ∧ AllPlain (fmtF b)
  back : ∀ b, b < 2 ^ 64 → b % 2 ^ 63 ≤ 0x7FEFFFFFFFFFFFFF → parseF (fmtF b) = some b

mutual
/-- items whose text the defect variant `d` prints in a way that parses back: no `"` in A/J text while `"` counts as printable;
only bytes that `jis_8` decodes to themselves in J text while the code of the decoded character is printed -/
def safeItem (d : Defects) : Item → Bool
  | .list xs => safeList d xs
  | .strA bs => !d.quotePrintable || bs.all (· != 34)
  | .strJ bs => (!d.quotePrintable || bs.all (· != 34)) && (!d.jis8Unicode || bs.all (fun b => jisDecode b == b))
  | _ => true
def safeList (d : Defects) : List Item → Bool
  | [] => true
  | x :: xs => safeItem d x && safeList d xs
end

mutual
theorem safe_none : ∀ v : Item, safeItem Defects.none v = true
  | .list xs => by simp only [safeItem]; exact safeList_none xs
  | .strA _ => by simp [safeItem, Defects.none]
  | .strJ _ => by simp [safeItem, Defects.none]
  | .bin _ => rfl
  | .bool _ => rfl
  | .int _ _ => rfl
  | .flt _ _ => rfl
theorem safeList_none : ∀ xs : List Item, safeList Defects.none xs = true
  | [] => rfl
  | x :: xs => by simp only [safeList, safe_none x, safeList_none xs]; rfl
end

def boolText (v : Bool) : Text := if v then [48, 120, 49] else [48, 120, 48]

mutual
/-- the tokens of `toSml d fmtF ind v` -/
def toksOf (d : Defects) (fmtF : Nat → Text) : Item → List Text
  | .list xs =>
    if xs.isEmpty then [[60], [76], [62]]
    else [60] :: [76] :: [91] :: decNat xs.length :: [93] :: (toksOfList d fmtF xs ++ [[62]])
  | .bin bs => [60] :: tyB :: (bs.map hexLit ++ [[62]])
  | .bool vs => [60] :: tyBOOLEAN :: (vs.map boolText ++ [[62]])
  | .strA bs => [60] :: tyA :: (strToks (isPrintable d) id hexLit bs none ++ [[62]])
  | .strJ bs => [60] :: tyJ :: (strToks (isPrintable d) jisDecode (jisCode d) bs none ++ [[62]])
  | .int t vs => [60] :: t.name :: (vs.map decInt ++ [[62]])
  | .flt t vs => [60] :: t.name :: (vs.map fmtF ++ [[62]])
def toksOfList (d : Defects) (fmtF : Nat → Text) : List Item → List Text
  | [] => []
  | x :: xs => toksOf d fmtF x ++ toksOfList d fmtF xs
end

theorem intName_word (t : IntTy) : t.name ≠ [] ∧ AllPlain t.name := by cases t <;> decide
theorem fltName_word (t : FltTy) : t.name ≠ [] ∧ AllPlain t.name := by cases t <;> decide
theorem boolText_word (v : Bool) : boolText v ≠ [] ∧ AllPlain (boolText v) := by cases v <;> decide

theorem isPrintable_ne_quote {d : Defects} {c : Nat} (h : isPrintable d c = true) (hq : d.quotePrintable = false) : c ≠ 34 := by
  unfold isPrintable at h
  rw [hq] at h
  simp only [Bool.false_or, Bool.and_eq_true, bne_iff_ne, ne_eq] at h
  exact h.2

theorem jisDecode_eq_quote {b : Nat} (h : jisDecode b = 34) : b = 34 := by
  unfold jisDecode at h
  split at h
  · omega
  · split at h
    · omega
    · split at h
      · omega
      · exact h

theorem quote_ok {d : Defects} {dec : Nat → Nat} (hdec : ∀ b, dec b = 34 → b = 34) {bs : List Nat}
    (hs : (!d.quotePrintable || bs.all (· != 34)) = true) : ∀ b ∈ bs, isPrintable d (dec b) = true → dec b ≠ 34 := by
  intro b hb hp h
  simp only [Bool.or_eq_true, Bool.not_eq_true', List.all_eq_true, bne_iff_ne, ne_eq] at hs
  rcases hs with hq | hall
  · exact isPrintable_ne_quote hp hq h
  · exact hall b hb (hdec b h)

theorem fltInBounds_finite {t : FltTy} {b : Nat} (h : fltInBounds t b = true) : b % 2 ^ 63 ≤ 0x7FEFFFFFFFFFFFFF := by
  have : t.maxBits ≤ 0x7FEFFFFFFFFFFFFF := by cases t <;> decide
  simp only [fltInBounds, decide_eq_true_eq] at h
  omega

mutual
theorem tok_item (d : Defects) (fmtF : Nat → Text) (parseF : Text → Option Nat) (hF : FloatLaws fmtF parseF) :
    ∀ (v : Item), v.valid = true → safeItem d v = true → ∀ (ind : Nat) (rest : Text),
      tokGo (toSml d fmtF ind v ++ rest) [] none = toksOf d fmtF v ++ tokGo rest [] none
  | .list [], _, _, ind, rest => by
    simp only [toSml, List.isEmpty_nil, if_true, List.append_assoc]
    rw [tokGo_spaces]; rfl
  | .list (y :: ys), hv, hs, ind, rest => by
    simp only [Item.valid] at hv
    simp only [safeItem] at hs
    simp only [toSml, toksOf, List.isEmpty_cons, Bool.false_eq_true, if_false, List.append_assoc, List.cons_append, List.nil_append]
    rw [tokGo_spaces, tokGo_listHead, tokGo_word _ _ (decNat_word _).2, tokGo_rb_nl, flush_ne (decNat_word _).1,
      tok_list d fmtF parseF hF (y :: ys) hv hs (ind + 4), tokGo_spaces]
    rfl
  -- the leaf cases are `tok_seq` / `tok_str` as they stand: their right-hand sides are written `[60] :: ty :: (… ++ [[62]]) ++ …`,
  -- which is `toksOf` of a leaf item unfolded
  | .bin bs, _, _, ind, rest => tok_seq ind tyB _ (by decide) (List.forall_mem_map.mpr fun b _ => hexLit_word b) rest
  | .bool vs, _, _, ind, rest =>
    tok_seq ind tyBOOLEAN (vs.map boolText) (by decide) (List.forall_mem_map.mpr fun b _ => boolText_word b) rest
  | .strA bs, _, hs, ind, rest =>
    tok_str ind tyA _ _ _ bs (by decide) (quote_ok (dec := id) (fun _ h => h) hs) (fun b _ => hexLit_word b) rest
  | .strJ bs, _, hs, ind, rest =>
    tok_str ind tyJ _ _ _ bs (by decide) (quote_ok (fun _ => jisDecode_eq_quote) (Bool.and_eq_true_iff.mp hs).1)
      (fun _ _ => hexLit_word _) rest
  | .int t vs, _, _, ind, rest =>
    tok_seq ind t.name _ (intName_word t) (List.forall_mem_map.mpr fun v _ => decInt_word v) rest
  | .flt t vs, hv, _, ind, rest => by
    simp only [Item.valid, List.all_eq_true, Bool.and_eq_true, decide_eq_true_eq] at hv
    exact tok_seq ind t.name _ (fltName_word t)
      (List.forall_mem_map.mpr fun b hb => hF.plain b (hv b hb).1 (fltInBounds_finite (hv b hb).2)) rest
theorem tok_list (d : Defects) (fmtF : Nat → Text) (parseF : Text → Option Nat) (hF : FloatLaws fmtF parseF) :
    ∀ (xs : List Item), validList xs = true → safeList d xs = true → ∀ (ind : Nat) (rest : Text),
      tokGo (childrenSml d fmtF ind xs ++ rest) [] none = toksOfList d fmtF xs ++ tokGo rest [] none
  | [], _, _, _, _ => rfl
  | x :: xs, hv, hs, ind, rest => by
    simp only [validList, Bool.and_eq_true] at hv
    simp only [safeList, Bool.and_eq_true] at hs
    simp only [childrenSml, toksOfList, List.append_assoc]
    rw [tok_item d fmtF parseF hF x hv.1 hs.1 ind, List.cons_append, List.nil_append, tokGo_ws (by decide), flush_nil,
      List.nil_append, tok_list d fmtF parseF hF xs hv.2 hs.2 ind rest]
end

end SecsModel.Proofs.Sml
