import SecsModel.Model.Sml
/-!
# Proofs.SmlTotal — the readers step by step; the fuel `parseTokens` supplies is never exhausted; every successful read consumes
tokens; more fuel never changes an answer other than the fuel error

`readNums/readFlts/readStr/readItems/readItem/readLoop` are unfolded here once each, in their `…_eq` or `…_cases` lemma; the rest
of this file and `SmlReject` are case analyses over those.  (`SmlParse` has its own forward equations of the same readers.)
-/
namespace SecsModel.Proofs.Sml
open SecsModel.Model.Sml

variable {α β : Type}

def andThen (a : Except PErr (α × List Text)) (k : α → List Text → Except PErr (β × List Text)) :
    Except PErr (β × List Text) :=
  match a with
  | .ok (x, r) => k x r
  | .error e => .error e

theorem andThen_ok {a : Except PErr (α × List Text)} {k : α → List Text → Except PErr (β × List Text)}
    {y : β} {r : List Text} (h : andThen a k = .ok (y, r)) : ∃ x r', a = .ok (x, r') ∧ k x r' = .ok (y, r) := by
  cases a with
  | error e => cases h
  | ok p => exact ⟨p.1, p.2, rfl, h⟩

theorem andThen_ne_fuel {a : Except PErr (α × List Text)} {k : α → List Text → Except PErr (β × List Text)}
    (h : andThen a k ≠ .error .fuel) : a ≠ .error .fuel ∧ ∀ x r, a = .ok (x, r) → k x r ≠ .error .fuel := by
  cases a with
  | error e => exact ⟨fun h' => h (h' ▸ rfl), nofun⟩
  | ok p => exact ⟨nofun, fun _ _ h' => by cases h'; exact h⟩

theorem mapOk_eq_andThen (g : α → β) (a : Except PErr (α × List Text)) :
    mapOk g a = andThen a fun x r => .ok (g x, r) := by
  cases a <;> rfl

theorem mapOk_ok {g : α → β} {a : Except PErr (α × List Text)} {y : β} {r : List Text} (h : mapOk g a = .ok (y, r)) :
    ∃ x, a = .ok (x, r) := by
  cases a with
  | error e => cases h
  | ok p => cases h; exact ⟨p.1, rfl⟩

theorem mapOk_ne_fuel {g : α → β} {a : Except PErr (α × List Text)} (h : mapOk g a ≠ .error .fuel) :
    a ≠ .error .fuel := by
  rw [mapOk_eq_andThen] at h; exact (andThen_ne_fuel h).1

/-- the loop that `readNums`, `readFlts` and `readStr` share: up to `>`, each token through `one` -/
def readVals (one : Text → Except PErr (List β)) : List Text → Except PErr (List β × List Text)
  | [] => .error .index
  | t :: ts =>
    if t = [62] then .ok ([], ts) else
    match one t with
    | .error e => .error e
    | .ok bs => mapOk (bs ++ ·) (readVals one ts)

def numTok (base0 : Bool) (lo hi : Int) (t : Text) : Except PErr (List Int) :=
  match pyInt base0 t with
  | none => .error .value
  | some v => if lo ≤ v ∧ v ≤ hi then .ok [v] else .error .parse

def fltTok (parseF : Text → Option Nat) (ty : FltTy) (t : Text) : Except PErr (List Nat) :=
  match parseF t with
  | none => .error .value
  | some b => if fltInBounds ty b then .ok [b] else .error .parse

def strTok (enc : Nat → Option Nat) (t : Text) : Except PErr (List Nat) :=
  if t.head? = some 34 then
    match encodeAll enc (stripQ t) with
    | none => .error .value
    | some bs => .ok bs
  else
    match pyInt true t with
    | none => .error .value
    | some v => if 0 ≤ v ∧ v ≤ 255 then .ok [v.toNat] else .error .parse

theorem readNums_eq (base0 : Bool) (lo hi : Int) : ∀ ts, readNums base0 lo hi ts = readVals (numTok base0 lo hi) ts
  | [] => rfl
  | t :: ts => by
    rw [readNums, readVals, readNums_eq base0 lo hi ts, numTok]
    split
    · rfl
    · cases pyInt base0 t with
      | none => rfl
      | some v =>
        dsimp only
        split
        · cases readVals (numTok base0 lo hi) ts <;> rfl
        · rfl

theorem readFlts_eq (parseF : Text → Option Nat) (ty : FltTy) : ∀ ts, readFlts parseF ty ts = readVals (fltTok parseF ty) ts
  | [] => rfl
  | t :: ts => by
    rw [readFlts, readVals, readFlts_eq parseF ty ts, fltTok]
    split
    · rfl
    · cases parseF t with
      | none => rfl
      | some v =>
        dsimp only
        split
        · cases readVals (fltTok parseF ty) ts <;> rfl
        · rfl

theorem readStr_eq (enc : Nat → Option Nat) : ∀ ts, readStr enc ts = readVals (strTok enc) ts
  | [] => rfl
  | t :: ts => by
    rw [readStr, readVals, readStr_eq enc ts, strTok]
    split
    · rfl
    · split
      · cases encodeAll enc (stripQ t) with
        | none => rfl
        | some bs => dsimp only; cases readVals (strTok enc) ts <;> rfl
      · cases pyInt true t with
        | none => rfl
        | some v =>
          dsimp only
          split
          · cases readVals (strTok enc) ts <;> rfl
          · rfl

theorem numTok_ne_fuel (base0 : Bool) (lo hi : Int) (t : Text) : numTok base0 lo hi t ≠ .error .fuel := by
  unfold numTok; split
  · exact nofun
  · split <;> exact nofun

theorem fltTok_ne_fuel (parseF : Text → Option Nat) (ty : FltTy) (t : Text) : fltTok parseF ty t ≠ .error .fuel := by
  unfold fltTok; split
  · exact nofun
  · split <;> exact nofun

theorem strTok_ne_fuel (enc : Nat → Option Nat) (t : Text) : strTok enc t ≠ .error .fuel := by
  unfold strTok; split
  · split <;> exact nofun
  · split
    · exact nofun
    · split <;> exact nofun

/-- what `readItems` does after `[ len ]` and the item loop -/
def checkLen (len : Text) (xs : List Item) (r : List Text) : Except PErr (Item × List Text) :=
  match lengthCheck (some len) xs.length with
  | .error e => .error e
  | .ok _ => .ok (.list xs, r)

theorem readItems_cases (ts : List Text) :
    (∃ e, e ≠ .fuel ∧ ∀ loop, readItems loop ts = .error e)
    ∨ (∃ len ts4, ts = [91] :: len :: [93] :: ts4 ∧ ∀ loop, readItems loop ts = andThen (loop ts4) (checkLen len))
    ∨ (∀ loop, readItems loop ts = mapOk Item.list (loop ts)) := by
  unfold readItems
  split
  · exact .inl ⟨.index, by decide, fun _ => rfl⟩
  · rename_i p ts3
    split
    · rename_i hp
      split
      · exact .inl ⟨.index, by decide, fun _ => rfl⟩
      · exact .inl ⟨.index, by decide, fun _ => rfl⟩
      · rename_i len cl ts4
        by_cases hcl : cl = [93]
        · subst hp hcl
          refine .inr (.inl ⟨len, ts4, rfl, fun loop => ?_⟩)
          simp only [ne_eq, not_true, if_false, andThen, checkLen]
          cases loop ts4 <;> rfl
        · exact .inl ⟨.parse, by decide, fun _ => by simp only [ne_eq, hcl, not_false_eq_true, if_true]⟩
    · exact .inr (.inr fun _ => rfl)

theorem readItem_cases (parseF : Text → Option Nat) (ts : List Text) :
    (∃ e, e ≠ .fuel ∧ ∀ f, readItem parseF (f + 1) ts = .error e)
    ∨ (∃ ty k ts2, ts = [60] :: ty :: ts2 ∧ typeOf ty = some k ∧ k ≠ .l ∧ ∀ f, readItem parseF (f + 1) ts = readLeaf parseF k ts2)
    ∨ (∃ ty len ts4, ts = [60] :: ty :: [91] :: len :: [93] :: ts4 ∧ typeOf ty = some .l ∧
        ∀ f, readItem parseF (f + 1) ts = andThen (readLoop parseF f ts4) (checkLen len))
    ∨ (∃ ty ts2, ts = [60] :: ty :: ts2 ∧ typeOf ty = some .l ∧
        ∀ f, readItem parseF (f + 1) ts = mapOk Item.list (readLoop parseF f ts2)) := by
  match ts with
  | [] => exact .inl ⟨.index, by decide, fun _ => rfl⟩
  | [t0] =>
    by_cases h : t0 = [60]
    · exact .inl ⟨.index, by decide, fun _ => by simp [readItem, h]⟩
    · exact .inl ⟨.parse, by decide, fun _ => by simp [readItem, h]⟩
  | t0 :: ty :: ts2 =>
    by_cases h : t0 = [60]
    · subst h
      cases hty : typeOf ty with
      | none => exact .inl ⟨.parse, by decide, fun _ => by simp [readItem, hty]⟩
      | some k =>
        cases k with
        | l =>
          have eqn : ∀ f, readItem parseF (f + 1) ([60] :: ty :: ts2) = readItems (readLoop parseF f) ts2 :=
            fun _ => by simp [readItem, hty]
          rcases readItems_cases ts2 with ⟨e, he, h⟩ | ⟨len, ts4, rfl, h⟩ | h
          · exact .inl ⟨e, he, fun f => by rw [eqn, h]⟩
          · exact .inr (.inr (.inl ⟨ty, len, ts4, rfl, hty, fun f => by rw [eqn, h]⟩))
          · exact .inr (.inr (.inr ⟨ty, ts2, rfl, hty, fun f => by rw [eqn, h]⟩))
        | _ => exact .inr (.inl ⟨ty, _, ts2, rfl, hty, nofun, fun _ => by simp [readItem, hty]⟩)
    · exact .inl ⟨.parse, by decide, fun _ => by simp [readItem, h]⟩

theorem readLoop_cases (parseF : Text → Option Nat) (ts : List Text) :
    (∃ e, e ≠ .fuel ∧ ∀ f, readLoop parseF (f + 1) ts = .error e)
    ∨ (∃ t r, ts = t :: r ∧ isCloser t = true ∧ ∀ f, readLoop parseF (f + 1) ts = .ok ([], r))
    ∨ (∃ t r, ts = t :: r ∧ isCloser t = false ∧ ∀ f, readLoop parseF (f + 1) ts =
        andThen (readItem parseF f ts) fun x r' => mapOk (x :: ·) (readLoop parseF f r')) := by
  match ts with
  | [] => exact .inl ⟨.index, by decide, fun _ => rfl⟩
  | t :: r =>
    cases hc : isCloser t with
    | true => exact .inr (.inl ⟨t, r, rfl, hc, fun _ => by simp [readLoop, hc]⟩)
    | false =>
      refine .inr (.inr ⟨t, r, rfl, hc, fun f => ?_⟩)
      simp only [readLoop, hc, Bool.false_eq_true, if_false, andThen]
      cases readItem parseF f (t :: r) with
      | error e => rfl
      | ok p => dsimp only; cases readLoop parseF f p.2 <;> rfl

/-- what holds of the three value loops and survives `mapOk` holds of every leaf reader -/
theorem readLeaf_ind (parseF : Text → Option Nat) {k : Ty} (hk : k ≠ .l) (ts : List Text)
    {P : ∀ {α : Type}, Except PErr (α × List Text) → Prop}
    (hmap : ∀ {β : Type} (g : List β → Item) {a : Except PErr (List β × List Text)}, P a → P (mapOk g a))
    (hnum : ∀ b lo hi, P (readVals (numTok b lo hi) ts)) (hstr : ∀ enc, P (readVals (strTok enc) ts))
    (hflt : ∀ t, P (readVals (fltTok parseF t) ts)) : P (readLeaf parseF k ts) := by
  cases k with
  | l => exact absurd rfl hk
  | b => rw [readLeaf, readNums_eq]; exact hmap _ (hnum ..)
  | boolean => rw [readLeaf, readNums_eq]; exact hmap _ (hnum ..)
  | a => rw [readLeaf, readStr_eq]; exact hmap _ (hstr _)
  | j => rw [readLeaf, readStr_eq]; exact hmap _ (hstr _)
  | int t => rw [readLeaf, readNums_eq]; exact hmap _ (hnum ..)
  | flt t => rw [readLeaf, readFlts_eq]; exact hmap _ (hflt t)

def Consumes (ts : List Text) (k : Nat) (res : Except PErr (α × List Text)) : Prop :=
  res ≠ .error .fuel ∧ ∀ v r, res = .ok (v, r) → r.length + k ≤ ts.length

theorem Consumes.error {ts : List Text} {k : Nat} {e : PErr} (h : e ≠ .fuel) : Consumes (α := α) ts k (.error e) :=
  ⟨fun h' => h (by cases h'; rfl), nofun⟩

theorem Consumes.ok {ts r : List Text} {k : Nat} (v : α) (h : r.length + k ≤ ts.length) : Consumes ts k (.ok (v, r)) :=
  ⟨nofun, fun _ _ h' => by cases h'; exact h⟩

theorem Consumes.weaken {ts ts' : List Text} {k k' : Nat} {res : Except PErr (α × List Text)}
    (h : Consumes ts k res) (hk : ts.length + k' ≤ ts'.length + k) : Consumes ts' k' res :=
  ⟨h.1, fun v r hr => by have := h.2 v r hr; omega⟩

theorem Consumes.andThen {ts : List Text} {k k' : Nat} {a : Except PErr (α × List Text)}
    {g : α → List Text → Except PErr (β × List Text)} (ha : Consumes ts k a)
    (hg : ∀ x r, a = .ok (x, r) → Consumes r k' (g x r)) : Consumes ts (k + k') (andThen a g) := by
  cases a with
  | error e => exact Consumes.error fun h => ha.1 (h ▸ rfl)
  | ok p => exact (hg p.1 p.2 rfl).weaken (by have := ha.2 p.1 p.2 rfl; omega)

theorem Consumes.mapOk {ts : List Text} {k : Nat} {a : Except PErr (α × List Text)} (ha : Consumes ts k a) (g : α → β) :
    Consumes ts k (mapOk g a) := by
  rw [mapOk_eq_andThen]
  exact ha.andThen (k' := 0) fun _ _ _ => Consumes.ok _ (Nat.le_refl _)

theorem readVals_consumes (one : Text → Except PErr (List β)) (hone : ∀ t, one t ≠ .error .fuel) :
    ∀ ts, Consumes ts 1 (readVals one ts)
  | [] => Consumes.error (by decide)
  | t :: ts => by
    unfold readVals
    split
    · exact Consumes.ok _ (Nat.le_refl _)
    · split
      · rename_i e he; exact Consumes.error fun h => hone t (h ▸ he)
      · exact ((readVals_consumes one hone ts).mapOk _).weaken (Nat.le_succ _)

theorem readLeaf_consumes (parseF : Text → Option Nat) {k : Ty} (hk : k ≠ .l) (ts : List Text) : Consumes ts 1 (readLeaf parseF k ts) :=
  readLeaf_ind parseF hk ts (P := fun res => Consumes ts 1 res) (fun g _ h => h.mapOk g)
    (fun b lo hi => readVals_consumes _ (numTok_ne_fuel b lo hi) ts) (fun enc => readVals_consumes _ (strTok_ne_fuel enc) ts)
    (fun t => readVals_consumes _ (fltTok_ne_fuel parseF t) ts)

theorem lengthCheck_ne_fuel (len : Option Text) (n : Nat) : lengthCheck len n ≠ .error .fuel := by
  unfold lengthCheck
  split
  · exact nofun
  · split
    · exact nofun
    · split <;> exact nofun

theorem checkLen_consumes (len : Text) (xs : List Item) (r : List Text) : Consumes r 0 (checkLen len xs r) := by
  unfold checkLen
  split
  · rename_i e he; exact Consumes.error fun h => lengthCheck_ne_fuel _ _ (h ▸ he)
  · exact Consumes.ok _ (Nat.le_refl _)

/-- **fuel is sufficient**: with `f > |ts|` the item reader never runs out of fuel and consumes at least three tokens; the item
loop (entered with `f > |ts| + 1`) likewise, consuming at least its closing token -/
theorem read_consumes (parseF : Text → Option Nat) : ∀ f : Nat,
    (∀ ts : List Text, ts.length + 1 ≤ f → Consumes ts 3 (readItem parseF f ts))
    ∧ (∀ ts : List Text, ts.length + 2 ≤ f → Consumes ts 1 (readLoop parseF f ts))
  | 0 => ⟨fun ts h => by omega, fun ts h => by omega⟩
  | f + 1 => by
    have ih := read_consumes parseF f
    constructor
    · intro ts hlen
      rcases readItem_cases parseF ts with ⟨e, he, h⟩ | ⟨ty, k, ts2, rfl, _, hk, h⟩ | ⟨ty, len, ts4, rfl, _, h⟩ | ⟨ty, ts2, rfl, _, h⟩ <;>
        rw [h]
      · exact Consumes.error he
      -- `Nat.le_refl` in the next cases: `<` and the type name are the two tokens by which `ts` is longer than `ts2`
      · exact (readLeaf_consumes parseF hk ts2).weaken (Nat.le_refl _)
      · simp only [List.length_cons] at hlen
        exact ((ih.2 ts4 (by omega)).andThen fun xs r _ => checkLen_consumes len xs r).weaken (by simp only [List.length_cons]; omega)
      · simp only [List.length_cons] at hlen
        exact ((ih.2 ts2 (by omega)).mapOk _).weaken (Nat.le_refl _)
    · intro ts hlen
      rcases readLoop_cases parseF ts with ⟨e, he, h⟩ | ⟨t, r, rfl, _, h⟩ | ⟨t, r, rfl, _, h⟩ <;> rw [h]
      · exact Consumes.error he
      · exact Consumes.ok _ (Nat.le_refl _)
      · have hi := ih.1 (t :: r) (by omega)
        exact (hi.andThen fun x r' hx => (ih.2 r' (by have := hi.2 x r' hx; omega)).mapOk _).weaken (by omega)

theorem read_mono (parseF : Text → Option Nat) : ∀ f : Nat,
    (∀ ts, readItem parseF f ts ≠ .error .fuel → readItem parseF (f + 1) ts = readItem parseF f ts)
    ∧ (∀ ts, readLoop parseF f ts ≠ .error .fuel → readLoop parseF (f + 1) ts = readLoop parseF f ts)
  | 0 => ⟨fun ts h => absurd rfl h, fun ts h => absurd rfl h⟩
  | f + 1 => by
    have ih := read_mono parseF f
    constructor
    -- an error, a leaf and a closing token do not look at the fuel: both sides are the same expression
    · intro ts h
      rcases readItem_cases parseF ts with ⟨e, _, he⟩ | ⟨ty, k, ts2, rfl, _, _, he⟩ | ⟨ty, len, ts4, rfl, _, he⟩ | ⟨ty, ts2, rfl, _, he⟩
      · rw [he (f + 1), he f]
      · rw [he (f + 1), he f]
      · rw [he f] at h
        rw [he (f + 1), he f, ih.2 ts4 (andThen_ne_fuel h).1]
      · rw [he f] at h
        rw [he (f + 1), he f, ih.2 ts2 (mapOk_ne_fuel h)]
    · intro ts h
      rcases readLoop_cases parseF ts with ⟨e, _, he⟩ | ⟨t, r, rfl, _, he⟩ | ⟨t, r, rfl, _, he⟩
      · rw [he (f + 1), he f]
      · rw [he (f + 1), he f]
      · rw [he f] at h
        rw [he (f + 1), he f]
        have ⟨h1, h2⟩ := andThen_ne_fuel h
        rw [ih.1 _ h1]
        cases hx : readItem parseF f (t :: r) with
        | error e => rfl
        | ok p => simp only [andThen]; rw [ih.2 _ (mapOk_ne_fuel (h2 p.1 p.2 hx))]

theorem readItem_fuel_irrelevant (parseF : Text → Option Nat) (ts : List Text) :
    ∀ k, readItem parseF (ts.length + 1 + k) ts = parseTokens parseF ts
  | 0 => rfl
  | k + 1 => by
    rw [← Nat.add_assoc, (read_mono parseF _).1 ts ((read_consumes parseF _).1 ts (by omega)).1, readItem_fuel_irrelevant parseF ts k]

end SecsModel.Proofs.Sml
