import SecsModel.Model.TcpSend
import SecsModel.Proofs.Chunks
/-! `send_data`, the packet loop and the send queue of `Model.TcpSend` against any socket oracle: what is written is a prefix of what was to
be sent (`Sent`); on a socket that stays failed once it failed nothing of a later block is written (`StickyAfter`, `processQueue_written`). -/
namespace SecsModel.Proofs.HsmsTcpSend
open SecsModel SecsModel.Model.TcpSend

/-- what a send operation on `d` owes its caller, whatever the socket does -/
structure Sent (d : Bytes) (r : SendRes) : Prop where
  pre : r.written <+: d
  all : r.outcome = .ok → r.written = d

structure StickyAfter (r : SendRes) : Prop where
  ok : r.outcome = .ok → Sticky r.rest
  fail : r.outcome = .fail → AllErr r.rest

theorem sendData_sent (d : Bytes) (o : List SockAns) : Sent d (sendData d o) := by
  fun_induction sendData d o with
  | case1 => exact ⟨List.nil_prefix, nofun⟩  -- oracle used up
  | case2 _ _ ih => exact ih  -- `select` time-out
  | case3 _ _ ih => exact ih  -- `EWOULDBLOCK`
  | case4 => exact ⟨List.nil_prefix, nofun⟩  -- error
  | case5 rem k o sent _ r ih =>  -- short write
    refine ⟨?_, fun hok => ?_⟩
    · have := (List.prefix_append_right_inj (rem.take sent)).mpr ih.pre
      rwa [List.take_append_drop] at this
    · show rem.take sent ++ _ = rem
      rw [ih.all hok, List.take_append_drop]
  | case6 rem k o sent h =>  -- last write
    have : rem.take sent = rem := List.take_of_length_le (by rw [List.length_drop] at h; omega)
    exact ⟨List.take_prefix _ _, fun _ => this⟩

theorem cons_before_error {a : SockAns} {o rest : List SockAns} (ha : a ≠ .error)
    (h : ∃ pre, o = pre ++ .error :: rest ∧ ∀ x ∈ pre, x ≠ .error) : ∃ pre, a :: o = pre ++ .error :: rest ∧ ∀ x ∈ pre, x ≠ .error := by
  obtain ⟨pre, hp, hn⟩ := h
  refine ⟨a :: pre, by rw [hp, List.cons_append], fun x hx => ?_⟩
  rcases List.mem_cons.mp hx with rfl | hx
  · exact ha
  · exact hn x hx

theorem sendData_fail (d : Bytes) (o : List SockAns) (h : (sendData d o).outcome = .fail) :
    ∃ pre, o = pre ++ .error :: (sendData d o).rest ∧ ∀ a ∈ pre, a ≠ .error := by
  fun_induction sendData d o with
  | case1 => cases h  -- oracle used up
  | case2 _ _ ih => exact cons_before_error nofun (ih h)  -- `select` time-out
  | case3 _ _ ih => exact cons_before_error nofun (ih h)  -- `EWOULDBLOCK`
  | case4 _ o => exact ⟨[], rfl, nofun⟩  -- error
  | case5 _ _ _ _ _ _ ih => exact cons_before_error nofun (ih h)  -- short write
  | case6 => cases h  -- last write

def gain : SockAns → Nat
  | .accept k => k
  | _ => 0

theorem exists_accept_of_pos (o : List SockAns) (h : 0 < (o.map gain).sum) : ∃ k, SockAns.accept k ∈ o := by
  induction o with
  | nil => cases h
  | cons a o ih =>
    cases a with
    | accept k => exact ⟨k, List.mem_cons_self⟩
    | _ =>
      obtain ⟨k, hk⟩ := ih (by simpa [gain] using h)
      exact ⟨k, List.mem_cons_of_mem _ hk⟩

theorem sendData_completes (d : Bytes) (o : List SockAns) (hne : ∀ a ∈ o, a ≠ .error) (hacc : ∃ k, SockAns.accept k ∈ o)
    (hs : d.length ≤ (o.map gain).sum) : (sendData d o).outcome = .ok := by
  fun_induction sendData d o with
  | case1 => obtain ⟨_, hk⟩ := hacc; cases hk  -- oracle used up
  | case2 _ _ ih =>  -- `select` time-out
    exact ih (fun a ha => hne a (List.mem_cons_of_mem _ ha)) (by simpa using hacc) (by simpa [gain] using hs)
  | case3 _ _ ih =>  -- `EWOULDBLOCK`
    exact ih (fun a ha => hne a (List.mem_cons_of_mem _ ha)) (by simpa using hacc) (by simpa [gain] using hs)
  | case4 => exact absurd rfl (hne .error List.mem_cons_self)  -- error
  | case5 rem k o sent hpos _ ih =>  -- short write
    rw [List.map_cons, List.sum_cons, gain] at hs
    rw [List.length_drop] at hpos
    exact ih (fun a ha => hne a (List.mem_cons_of_mem _ ha)) (exists_accept_of_pos o (by omega)) (by rw [List.length_drop]; omega)
  | case6 => rfl  -- last write

theorem allErr_sticky : ∀ (o : List SockAns), AllErr o → Sticky o
  | [], _ => trivial
  | a :: o, h => by
    obtain rfl := h a List.mem_cons_self
    exact fun x hx => h x (List.mem_cons_of_mem _ hx)

theorem sendData_sticky (d : Bytes) (o : List SockAns) (h : Sticky o) : StickyAfter (sendData d o) := by
  fun_induction sendData d o with
  | case1 => exact ⟨fun _ => trivial, nofun⟩  -- oracle used up
  | case2 _ _ ih => exact ih h  -- `select` time-out
  | case3 _ _ ih => exact ih h  -- `EWOULDBLOCK`
  | case4 => exact ⟨nofun, fun _ => h⟩  -- error: `Sticky (.error :: o)` unfolds to `AllErr o`
  | case5 _ _ _ _ _ _ ih => exact ⟨(ih h).ok, (ih h).fail⟩  -- short write
  | case6 => exact ⟨fun _ => h, nofun⟩  -- last write

theorem sendData_allErr : ∀ (d : Bytes) (o : List SockAns), AllErr o →
    (sendData d o).written = [] ∧ AllErr (sendData d o).rest ∧ (sendData d o).outcome ≠ .ok
  | _, [], h => ⟨rfl, h, nofun⟩
  | _, a :: o, h => by
    obtain rfl := h a List.mem_cons_self
    exact ⟨rfl, fun x hx => h x (List.mem_cons_of_mem _ hx), nofun⟩

theorem sendPackets_sent (ps : List Bytes) (o : List SockAns) : Sent ps.flatten (sendPackets ps o) := by
  fun_induction sendPackets ps o with
  | case1 => exact ⟨List.nil_prefix, fun _ => rfl⟩  -- no packet left
  | case2 p ps o r hr r2 ih =>  -- packet sent
    rw [List.flatten_cons, ← (sendData_sent p o).all hr]
    exact ⟨(List.prefix_append_right_inj _).mpr ih.pre, fun hok => by rw [ih.all hok]⟩
  | case3 p ps o r hr =>  -- packet not sent
    exact ⟨(sendData_sent p o).pre.trans (List.flatten_cons ▸ List.prefix_append _ _), fun hok => absurd hok hr⟩

theorem sendPackets_sticky (ps : List Bytes) (o : List SockAns) (h : Sticky o) : StickyAfter (sendPackets ps o) := by
  fun_induction sendPackets ps o with
  | case1 => exact ⟨fun _ => h, nofun⟩  -- no packet left
  | case2 p _ o _ hr _ ih =>  -- packet sent
    have hrest := ih ((sendData_sticky p o h).ok hr)
    exact ⟨hrest.ok, hrest.fail⟩
  | case3 p _ o _ hr => exact ⟨fun hok => absurd hok hr, (sendData_sticky p o h).fail⟩  -- packet not sent

theorem sendPackets_allErr (ps : List Bytes) (o : List SockAns) (h : AllErr o) :
    (sendPackets ps o).written = [] ∧ AllErr (sendPackets ps o).rest := by
  fun_induction sendPackets ps o with
  | case1 => exact ⟨rfl, h⟩  -- no packet left
  | case2 p _ o _ hr _ _ =>  -- packet sent
    obtain ⟨_, _, hnok⟩ := sendData_allErr p o h
    exact absurd hr hnok
  | case3 p _ o _ _ =>  -- packet not sent
    obtain ⟨hw, hrest, _⟩ := sendData_allErr p o h
    exact ⟨hw, hrest⟩

theorem sendBlock_sent (size : Nat) (hs : 0 < size) (d : Bytes) (o : List SockAns) : Sent d (sendBlock size d o) := by
  have := sendPackets_sent (Model.SecsI.chunks size d) o
  rwa [Proofs.SecsI.chunks_flatten hs d] at this

theorem sendBlock_sticky (size : Nat) (d : Bytes) (o : List SockAns) (h : Sticky o) : StickyAfter (sendBlock size d o) :=
  sendPackets_sticky _ o h

/-- the `True` and the `False` branch of the loop differ only in the Boolean -/
theorem processQueue_cons (size : Nat) (b : Bytes) (q : List Bytes) (o : List SockAns) (h : (sendBlock size b o).outcome ≠ .pending) :
    processQueue size (b :: q) o =
      let r := sendBlock size b o
      let r2 := processQueue size q r.rest
      ⟨decide (r.outcome = .ok) :: r2.resolved, r.written :: r2.parts, r2.queue, r2.rest, r2.pending⟩ := by
  rw [processQueue]
  cases hr : (sendBlock size b o).outcome with
  | pending => exact absurd hr h
  | _ => simp only [hr]; rfl

theorem processQueue_allErr (size : Nat) : ∀ (q : List Bytes) (o : List SockAns), AllErr o → (processQueue size q o).written = []
  | [], _, _ => rfl
  | b :: q, o, h => by
    obtain ⟨hw, hr⟩ := sendPackets_allErr (Model.SecsI.chunks size b) o h
    by_cases hp : (sendBlock size b o).outcome = .pending
    · rw [processQueue, hp]
      exact (List.append_nil _).trans hw
    · rw [processQueue_cons size b q o hp]
      show (sendBlock size b o).written ++ (processQueue size q _).written = []
      rw [processQueue_allErr size q (sendBlock size b o).rest hr, List.append_nil]
      exact hw

theorem processQueue_blocks (size : Nat) (hs : 0 < size) : ∀ (q : List Bytes) (o : List SockAns),
    let r := processQueue size q o
    r.resolved.length ≤ q.length
    ∧ r.parts.length = r.resolved.length + (if r.pending then 1 else 0)
    ∧ (∀ x ∈ List.zip r.parts q, x.1 <+: x.2)
    ∧ (∀ x ∈ List.zip r.resolved (List.zip r.parts q), x.1 = true → x.2.1 = x.2.2)
    ∧ (r.pending = false → r.resolved.length = q.length ∧ r.queue = [])
  | [], o => ⟨Nat.le_refl _, rfl, nofun, nofun, fun _ => ⟨rfl, rfl⟩⟩
  | b :: q, o => by
    have hb := sendBlock_sent size hs b o
    by_cases hp : (sendBlock size b o).outcome = .pending
    · rw [processQueue, hp]
      refine ⟨Nat.zero_le _, rfl, fun x hx => ?_, nofun, nofun⟩
      obtain rfl := List.mem_singleton.mp hx
      exact hb.pre
    · obtain ⟨a1, a2, a3, a4, a5⟩ := processQueue_blocks size hs q (sendBlock size b o).rest
      rw [processQueue_cons size b q o hp]
      refine ⟨Nat.succ_le_succ a1, ?_, fun x hx => ?_, fun x hx hres => ?_, fun hpend => ?_⟩
      · exact (congrArg (· + 1) a2).trans (Nat.add_right_comm _ _ _)
      · rcases List.mem_cons.mp hx with rfl | hx
        · exact hb.pre
        · exact a3 x hx
      · rcases List.mem_cons.mp hx with rfl | hx
        · exact hb.all (of_decide_eq_true hres)
        · exact a4 x hx hres
      · exact ⟨congrArg (· + 1) (a5 hpend).1, (a5 hpend).2⟩

theorem leadTrue_le : ∀ (l : List Bool), leadTrue l ≤ l.length
  | [] => Nat.le_refl _
  | true :: l => Nat.succ_le_succ (leadTrue_le l)
  | false :: _ => Nat.zero_le _

theorem leadTrue_replicate (n : Nat) : leadTrue (List.replicate n true) = n := by
  induction n with
  | zero => rfl
  | succ n ih => rw [List.replicate_succ, leadTrue, ih]

theorem processQueue_written (size : Nat) (hs : 0 < size) (q : List Bytes) (o : List SockAns) (hst : Sticky o) :
    let r := processQueue size q o
    let n := leadTrue r.resolved
    ∃ part t, r.written = (q.take n).flatten ++ part ∧ (q.drop n).head?.getD [] = part ++ t
      ∧ (r.resolved = List.replicate q.length true → part = [] ∧ r.queue = [] ∧ r.pending = false)
      ∧ n ≤ q.length := by
  -- the cases of `processQueue`: queue empty, block resolved `True`, resolved `False`, oracle used up inside the block
  fun_induction processQueue size q o with
  | case1 => exact ⟨[], [], rfl, rfl, fun _ => ⟨rfl, rfl, rfl⟩, Nat.le_refl _⟩
  | case2 b q o r hr r2 ih =>
    obtain ⟨part, t, hw, hh, hall, hn⟩ := ih ((sendBlock_sticky size b o hst).ok hr)
    refine ⟨part, t, ?_, hh, fun hrep => hall (List.cons.inj hrep).2, Nat.succ_le_succ hn⟩
    show r.written ++ r2.written = b ++ (q.take (leadTrue r2.resolved)).flatten ++ part
    rw [hw, (sendBlock_sent size hs b o).all hr, List.append_assoc]
  | case3 b q o r hr r2 =>
    -- nothing of a later block is written: the socket only fails any more
    obtain ⟨t, ht⟩ := (sendBlock_sent size hs b o).pre
    have hdead : AllErr r.rest := (sendBlock_sticky size b o hst).fail hr
    have hwritten : r.written ++ r2.written = r.written := by
      rw [show r2.written = [] from processQueue_allErr size q r.rest hdead, List.append_nil]
    have hnotAll : false :: r2.resolved ≠ List.replicate (b :: q).length true := fun hrep => Bool.noConfusion (List.cons.inj hrep).1
    exact ⟨r.written, t, hwritten, ht.symm, fun hrep => absurd hrep hnotAll, Nat.zero_le _⟩
  | case4 b q o r hr =>
    obtain ⟨t, ht⟩ := (sendBlock_sent size hs b o).pre
    have hnotAll : ([] : List Bool) ≠ List.replicate (b :: q).length true := (List.cons_ne_nil true (List.replicate q.length true)).symm
    exact ⟨r.written, t, List.append_nil _, ht.symm, fun hrep => absurd hrep hnotAll, Nat.zero_le _⟩

/-- `processQueue_written` in the form `C10.compose_with_framing` needs -/
theorem processQueue_stream (size : Nat) (hs : 0 < size) (q : List Bytes) (o : List SockAns) (hst : Sticky o) :
    let r := processQueue size q o
    (q.take (leadTrue r.resolved)).flatten <+: r.written ∧ r.written <+: q.flatten
      ∧ (r.resolved = List.replicate q.length true → r.written = q.flatten) := by
  intro r
  obtain ⟨part, t, hw, hh, hall, _⟩ := processQueue_written size hs q o hst
  refine ⟨⟨part, hw.symm⟩, ?_, fun hrep => ?_⟩
  · have hq : q.flatten = (q.take (leadTrue (processQueue size q o).resolved)).flatten ++ (q.drop (leadTrue (processQueue size q o).resolved)).flatten := by
      rw [← List.flatten_append, List.take_append_drop]
    rw [hw, hq]
    refine (List.prefix_append_right_inj _).mpr (List.IsPrefix.trans ⟨t, hh.symm⟩ ?_)
    cases q.drop (leadTrue (processQueue size q o).resolved) with
    | nil => exact List.nil_prefix
    | cons x xs => exact List.prefix_append x xs.flatten
  · rw [hw, (hall hrep).1, hrep, leadTrue_replicate, List.take_length, List.append_nil]

end SecsModel.Proofs.HsmsTcpSend
