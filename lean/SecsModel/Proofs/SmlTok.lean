import SecsModel.Proofs.SmlNum
/-!
# Proofs.SmlTok — what the tokenizer makes of the pieces of a printed item: blanks, plain words, `< T v1 v2 … >`, and the
quoted-run / character-code alternation of a string body
-/
namespace SecsModel.Proofs.Sml
open SecsModel.Model.Sml

theorem tokGo_ws {c : Nat} (h : isWs c = true) (cs cur : Text) :
    tokGo (c :: cs) cur none = flush cur ++ tokGo cs [] none := by
  simp [tokGo, h]

theorem tokGo_op {c : Nat} (h1 : isWs c = false) (h : isOp c = true) (cs cur : Text) :
    tokGo (c :: cs) cur none = flush cur ++ [c] :: tokGo cs [] none := by
  simp [tokGo, h, h1]

theorem tokGo_open {c : Nat} (h1 : isWs c = false) (h2 : isOp c = false) (h : isDelim c = true) (cs cur : Text) :
    tokGo (c :: cs) cur none = tokGo cs (cur ++ [c]) (some c) := by
  simp [tokGo, h, h1, h2]

theorem tokGo_plain1 {c : Nat} (h : isPlain c = true) (cs cur : Text) :
    tokGo (c :: cs) cur none = tokGo cs (cur ++ [c]) none := by
  unfold isPlain at h
  simp only [Bool.and_eq_true, Bool.not_eq_true'] at h
  simp [tokGo, h.1.1, h.1.2, h.2]

theorem tokGo_in_ne {c dl : Nat} (h : c ≠ dl) (cs cur : Text) :
    tokGo (c :: cs) cur (some dl) = tokGo cs (cur ++ [c]) (some dl) := by
  simp [tokGo, h]

theorem tokGo_in_eq (c : Nat) (cs cur : Text) :
    tokGo (c :: cs) cur (some c) = (cur ++ [c]) :: tokGo cs [] none := by
  simp [tokGo]

theorem flush_nil : flush [] = [] := rfl
theorem flush_ne {w : Text} (h : w ≠ []) : flush w = [w] := by
  cases w with
  | nil => exact absurd rfl h
  | cons _ _ => rfl

theorem tokGo_plain (w rest cur : Text) (h : AllPlain w) : tokGo (w ++ rest) cur none = tokGo rest (cur ++ w) none := by
  induction w generalizing cur with
  | nil => simp
  | cons c w ih =>
    rw [List.cons_append, tokGo_plain1 (h c (by simp)), ih _ fun x hx => h x (by simp [hx])]
    simp

theorem tokGo_word (w rest : Text) (h : AllPlain w) : tokGo (w ++ rest) [] none = tokGo rest w none :=
  tokGo_plain w rest [] h

theorem plain_ne_gt {t : Text} (h : AllPlain t) : t ≠ [62] := by
  intro e; subst e
  have := h 62 (by simp)
  simp [isPlain, isOp] at this

theorem tokGo_spaces (n : Nat) (rest : Text) : tokGo (spaces n ++ rest) [] none = tokGo rest [] none := by
  induction n with
  | zero => rfl
  | succ n ih => rw [spaces, List.replicate_succ, List.cons_append]; exact ih

/-- `< ` in front of every item -/
theorem tokGo_lt_sp (rest : Text) : tokGo (60 :: 32 :: rest) [] none = [60] :: tokGo rest [] none := by
  rw [tokGo_op (by decide) (by decide), tokGo_ws (by decide)]; rfl

/-- ` >` behind an item without values, with the token before it (the type name) still pending -/
theorem tokGo_sp_gt (rest p : Text) : tokGo (32 :: 62 :: rest) p none = flush p ++ [62] :: tokGo rest [] none := by
  rw [tokGo_ws (by decide), tokGo_op (by decide) (by decide)]; rfl

/-- `< L [` -/
theorem tokGo_listHead (rest : Text) :
    tokGo (60 :: 32 :: 76 :: 32 :: 91 :: rest) [] none = [60] :: [76] :: [91] :: tokGo rest [] none := by
  rw [tokGo_op (by decide) (by decide), tokGo_ws (by decide), tokGo_plain1 (by decide), tokGo_ws (by decide),
    tokGo_op (by decide) (by decide)]
  rfl

/-- `]` and the line end behind the length, which is still pending -/
theorem tokGo_rb_nl (rest p : Text) : tokGo (93 :: 10 :: rest) p none = flush p ++ [93] :: tokGo rest [] none := by
  rw [tokGo_op (by decide) (by decide), tokGo_ws (by decide)]; rfl

theorem tokGo_join (rest : Text) : ∀ (vals : List Text), (∀ v ∈ vals, v ≠ [] ∧ AllPlain v) →
    tokGo (joinWith [32] vals ++ 32 :: rest) [] none = vals ++ tokGo rest [] none
  | [], _ => rfl
  | [x], h => by
    have ⟨h1, h2⟩ := h x (by simp)
    rw [joinWith, tokGo_word _ _ h2, tokGo_ws (by decide), flush_ne h1]
  | x :: y :: r, h => by
    have ⟨h1, h2⟩ := h x (by simp)
    rw [joinWith, List.append_assoc, List.append_assoc, tokGo_word _ _ h2, List.singleton_append, tokGo_ws (by decide),
      flush_ne h1, tokGo_join rest (y :: r) fun v hv => h v (by simp [hv])]
    rfl

theorem tok_seq (ind : Nat) (ty : Text) (vals : List Text) (hty : ty ≠ [] ∧ AllPlain ty)
    (hv : ∀ v ∈ vals, v ≠ [] ∧ AllPlain v) (rest : Text) :
    tokGo (seqSml ind ty vals ++ rest) [] none = [60] :: ty :: (vals ++ [[62]]) ++ tokGo rest [] none := by
  unfold seqSml
  split
  · rename_i h
    simp only [List.isEmpty_iff.mp h, List.append_assoc, List.cons_append, List.nil_append]
    rw [tokGo_spaces, tokGo_lt_sp, tokGo_word _ _ hty.2, tokGo_sp_gt, flush_ne hty.1]; rfl
  · simp only [List.append_assoc, List.cons_append, List.nil_append]
    rw [tokGo_spaces, tokGo_lt_sp, tokGo_word _ _ hty.2, tokGo_ws (by decide), flush_ne hty.1, tokGo_join _ vals hv]; rfl

/-- tokens of the data part of a string item; the state is the quoted run being collected (`none`: the last character was
unprintable, or nothing was printed yet) -/
def strToks (pr : Nat → Bool) (dec : Nat → Nat) (code : Nat → Text) : List Nat → Option Text → List Text
  | [], none => []
  | [], some r => [34 :: r ++ [34]]
  | b :: bs, st =>
    if pr (dec b) then strToks pr dec code bs (some (st.getD [] ++ [dec b]))
    else (match st with | none => [] | some r => [34 :: r ++ [34]]) ++ code b :: strToks pr dec code bs none

/-- The two conjuncts are the two states the tokenizer can be in between characters of a string body, and they are `strLoop`'s
`last` flag: outside a quote with the token `p` pending, or inside a quote that has collected `34 :: r`.  `hq` is where a printable
`"` would break the second one. -/
theorem tok_strLoop (pr : Nat → Bool) (dec : Nat → Nat) (code : Nat → Text) (rest : Text) : ∀ (bs : List Nat),
    (∀ b ∈ bs, pr (dec b) = true → dec b ≠ 34) → (∀ b ∈ bs, code b ≠ [] ∧ AllPlain (code b)) →
    (∀ p : Text, tokGo (strLoop pr dec code bs false ++ 62 :: rest) p none
        = flush p ++ (strToks pr dec code bs none ++ [62] :: tokGo rest [] none))
    ∧ (∀ r : Text, tokGo (strLoop pr dec code bs true ++ 62 :: rest) (34 :: r) (some 34)
        = strToks pr dec code bs (some r) ++ [62] :: tokGo rest [] none)
  | [], _, _ => ⟨fun _ => rfl, fun r => by
      simp only [strLoop, if_true, List.cons_append, List.nil_append, strToks]
      rw [tokGo_in_eq]; rfl⟩
  | b :: bs, hq, hc => by
    have ⟨ihU, ihP⟩ := tok_strLoop pr dec code rest bs (fun x hx => hq x (by simp [hx])) (fun x hx => hc x (by simp [hx]))
    by_cases hpr : pr (dec b) = true
    · have hne : dec b ≠ 34 := hq b (by simp) hpr
      refine ⟨fun p => ?_, fun r => ?_⟩
      · simp only [strLoop, hpr, if_true, Bool.false_eq_true, if_false, List.cons_append, List.nil_append, strToks, Option.getD_none]
        rw [tokGo_ws (by decide), tokGo_open (by decide) (by decide) (by decide), tokGo_in_ne hne]
        exact congrArg _ (ihP [dec b])
      · simp only [strLoop, hpr, if_true, List.cons_append, List.nil_append, strToks, Option.getD_some]
        rw [tokGo_in_ne hne]
        exact ihP (r ++ [dec b])
    · have ⟨hc1, hc2⟩ := hc b (by simp)
      have hcode : tokGo (code b ++ (strLoop pr dec code bs false ++ 62 :: rest)) [] none
          = code b :: (strToks pr dec code bs none ++ [62] :: tokGo rest [] none) := by
        rw [tokGo_word _ _ hc2, ihU, flush_ne hc1]; rfl
      refine ⟨fun p => ?_, fun r => ?_⟩
      · simp only [strLoop, hpr, Bool.false_eq_true, if_false, List.cons_append, List.nil_append, List.append_assoc, strToks]
        rw [tokGo_ws (by decide), hcode]
      · simp only [strLoop, hpr, Bool.false_eq_true, if_false, if_true, List.cons_append, List.nil_append, List.append_assoc, strToks]
        rw [tokGo_in_eq, tokGo_ws (by decide), hcode]; rfl

theorem tok_str (ind : Nat) (ty : Text) (pr : Nat → Bool) (dec : Nat → Nat) (code : Nat → Text) (bs : List Nat)
    (hty : ty ≠ [] ∧ AllPlain ty)
    (hq : ∀ b ∈ bs, pr (dec b) = true → dec b ≠ 34)
    (hc : ∀ b ∈ bs, code b ≠ [] ∧ AllPlain (code b)) (rest : Text) :
    tokGo (strSml ind ty pr dec code bs ++ rest) [] none
      = [60] :: ty :: (strToks pr dec code bs none ++ [[62]]) ++ tokGo rest [] none := by
  unfold strSml
  simp only [List.append_assoc]
  rw [tokGo_spaces]
  simp only [List.cons_append, List.nil_append]
  rw [tokGo_lt_sp, tokGo_word _ _ hty.2, (tok_strLoop pr dec code rest bs hq hc).1, flush_ne hty.1, List.append_assoc]
  rfl

end SecsModel.Proofs.Sml
