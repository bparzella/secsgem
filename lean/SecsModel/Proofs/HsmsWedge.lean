import SecsModel.Model.Wedge
import SecsModel.Proofs.HsmsRx
/-! The argument of C09 about the hand model `Model.Wedge`: an invariant of the code that exists (`Inv`) under which the close sequence always has an
enabled step, a ranking function (`Model.Wedge.mu`) that every step of the endpoint's own threads decreases, and the ghost bookkeeping `Ghost` (what is
delivered on a connection comes from that connection's bytes). -/
namespace SecsModel.Proofs.HsmsWedge
open SecsModel SecsModel.Model.Rx SecsModel.Model.Wedge SecsModel.Proofs.HsmsRx

/-- where `head` finds a frame, `HsmsRx.extract_cons` applies -/
theorem head_frame {buf raw rest : Bytes} (h : head buf = .frame raw rest) :
    buf = raw ++ rest ∧ 4 ≤ raw.length ∧ ofBe (raw.take 4) + 4 = raw.length := by
  revert h
  fun_cases head buf <;> intro h <;> cases h
  refine ⟨(List.take_append_drop ..).symm, by simp only [List.length_take]; omega, ?_⟩
  rw [List.take_take, Nat.min_eq_left (by omega), List.length_take, Nat.min_eq_left (by omega)]

theorem resolve_eq (t : Tag) (s : St) :
    resolve t s = { s with sepRes := s.sepRes || t == .sep, replyRes := s.replyRes || t == .reply } := by
  cases t <;> simp [resolve]

/-! The steps of the code that exists as relations, one constructor per branch.  They are sound only (`of_eq`: what the step function does, the
relation allows; dropped guards: what `head` finds in `parsed` and `unblocked`, the decode error in `dropped`, the `reply` flag in `answer`/`handled`),
so what a step preserves or decreases is proved through them, and whether a step is enabled is read off the step functions (`prx_isSome`,
`progress`). -/

inductive TcpStep (s : St) : St → Prop
  | sepEnq : s.tcp = .sepEnq → TcpStep s { s with sendQ := s.sendQ ++ [.sep], rxTrig := true, tcp := .sepWait }
  | sepDone : s.tcp = .sepWait → s.sepRes = true → TcpStep s { s with sepRes := false, tcp := .discon }
  | stop : s.tcp = .discon → s.prx.alive = true → TcpStep s { s with conn := false, stopRx := true, rxTrig := true, tcp := .join }
  | noStop : s.tcp = .discon → s.prx.alive = false → TcpStep s { s with conn := false, tcp := .clear }
  | joined : s.tcp = .join → s.prx = .exited → TcpStep s { s with tcp := .clear }
  | clear : s.tcp = .clear → TcpStep s { s with buf := [], tcp := .done }

inductive PrxStep (s : St) (ok : Bool) : St → Prop
  | wake : s.prx = .idle → s.rxTrig = true → PrxStep s ok { s with rxTrig := false, prx := .chk }
  | stop : s.prx = .chk → s.stopRx = true → PrxStep s ok { s with prx := .exited, stopRx := false }
  | go : s.prx = .chk → s.stopRx = false → PrxStep s ok { s with prx := .send }
  | sent : s.prx = .send → s.sendQ = [] → PrxStep s ok { s with prx := .recv }
  | pop t q : s.prx = .send → s.sendQ = t :: q →
      PrxStep s ok (resolve t { s with sendQ := q, out := if ok then s.out ++ [t] else s.out })
  | parsed : s.prx = .recv → PrxStep s ok { s with prx := .loopCheck }
  | deliver raw rest b : s.prx = .recv → head s.buf = .frame raw rest → Block.decode raw = .ok b →
      PrxStep s ok { s with buf := rest, dispQ := s.dispQ + 1, dispTrig := true, delivered := s.delivered ++ [b] }
  | dropped raw rest : s.prx = .recv → head s.buf = .frame raw rest →
      PrxStep s ok { s with buf := rest, rxErr := true, prx := .loopCheck }
  | unblocked : s.prx = .blockedRead → PrxStep s ok { s with prx := .recv }
  | stopLate : s.prx = .loopCheck → s.stopRx = true → PrxStep s ok { s with prx := .exited, stopRx := false }
  | again : s.prx = .loopCheck → s.stopRx = false → PrxStep s ok { s with prx := .idle }

inductive DispStep (s : St) : St → Prop
  | wake : s.disp = .idle → s.dispTrig = true → DispStep s { s with dispTrig := false, disp := .handle }
  | drained : s.disp = .handle → s.dispQ = 0 → DispStep s { s with disp := .idle }
  | answer : s.disp = .handle → s.dispQ ≠ 0 →
      DispStep s { s with dispQ := s.dispQ - 1, sendQ := s.sendQ ++ [.reply], rxTrig := true, disp := .waitReply }
  | handled : s.disp = .handle → s.dispQ ≠ 0 → DispStep s { s with dispQ := s.dispQ - 1 }
  | replied : s.disp = .waitReply → s.replyRes = true → DispStep s { s with replyRes := false, disp := .handle }

inductive Step (s : St) : Lbl → St → Prop
  | connect : s.tcp = .done →
      Step s .connect { s with tcp := .running, conn := true, prx := .idle, stopRx := false,
                               disp := if s.disp = .notStarted then .idle else s.disp,
                               fed := [], mark := s.delivered.length, rxErr := false, out := [] }
  | chunk c : s.tcp = .running → Step s (.chunk c) { s with buf := s.buf ++ c, rxTrig := true, fed := s.fed ++ c }
  | close : s.tcp = .running → Step s .close { s with tcp := .sepEnq }
  | tcp {s'} : TcpStep s s' → Step s .tcp s'
  | prx {ok s'} : PrxStep s ok s' → Step s (.prx ok) s'
  | disp {r s'} : DispStep s s' → Step s (.disp r) s'

variable {s s' : St} {ok : Bool} {l : Lbl}

theorem TcpStep.of_eq (h : stepTcp s = some s') : TcpStep s s' := by
  revert h
  fun_cases stepTcp s <;> intro h <;> cases h <;> constructor <;> simp_all

/-- The one-line proof of its two siblings does not go through here: `stop` and `stopLate` make the same update, so `constructor` cannot choose
between them, and `pop` needs the case split on `ok`. -/
theorem PrxStep.of_eq (h : stepPrx .current s ok = some s') : PrxStep s ok s' := by
  unfold stepPrx at h
  split at h
  · split at h <;> cases h
    exact .wake ‹_› ‹_›
  · split at h <;> cases h
    · exact .stop ‹_› ‹_›
    · exact .go ‹_› (Bool.eq_false_iff.2 ‹_›)
  · split at h
    · cases h; exact .sent ‹_› ‹_›
    · cases ok <;> cases h <;> exact .pop _ _ ‹_› ‹_›
  · split at h
    · cases h; exact .parsed ‹_›
    · cases h; exact .parsed ‹_›
    · split at h <;> cases h
      · exact .deliver _ _ _ ‹_› ‹_› ‹_›
      · exact .dropped _ _ ‹_› ‹_›
  · split at h <;> cases h
    exact .unblocked ‹_›
  · split at h <;> cases h
    · exact .stopLate ‹_› ‹_›
    · exact .again ‹_› (Bool.eq_false_iff.2 ‹_›)
  · cases h
  · cases h

theorem DispStep.of_eq {r : Bool} (h : stepDisp s r = some s') : DispStep s s' := by
  revert h
  fun_cases stepDisp s r <;> intro h <;> cases h <;> constructor <;> simp_all

theorem Step.of_eq (h : step .current s l = some s') : Step s l s' := by
  cases l <;> simp only [step] at h
  case connect => split at h <;> cases h; exact .connect ‹_›
  case chunk => split at h <;> cases h; exact .chunk _ ‹_›
  case close => split at h <;> cases h; exact .close ‹_›
  case tcp => exact .tcp (.of_eq h)
  case prx => exact .prx (.of_eq h)
  case disp => exact .disp (.of_eq h)

theorem PrxStep.tcp_eq (h : PrxStep s ok s') : s'.tcp = s.tcp := by
  cases h <;> simp [resolve_eq]
theorem PrxStep.conn_eq (h : PrxStep s ok s') : s'.conn = s.conn := by
  cases h <;> simp [resolve_eq]
theorem PrxStep.alive (h : PrxStep s ok s') : s.prx.alive = true := by
  cases h <;> simp [RxPc.alive, *]
theorem PrxStep.started (h : PrxStep s ok s') : s'.prx ≠ .notStarted := by
  cases h <;> simp [resolve_eq, *]

/-! Every step of the endpoint's own threads decreases `mu`: each weight, and each gap between the ranks of two program counters, pays for what
the step raises elsewhere.  `answer`: a dispatched block (11) for a queued reply (2), the receiver's trigger (7) and `handle → waitReply` (1).
A delivered frame: at least 4 bytes (16) for a dispatch-queue entry (11) and the dispatcher's trigger (3).  `sepEnq → sepWait` (10) for the queued
Separate.req (2) and the trigger (7); `discon → join` (8) for the trigger (7).  A thread that wakes up spends its trigger: `idle → chk` raises the rank
by 6 < 7, the dispatcher's `idle → handle` by 2 < 3.  `pop`: a queue entry (2) for a resolved flag (1). -/

@[simp] theorem b2n_true : b2n true = 1 := rfl
@[simp] theorem b2n_false : b2n false = 0 := rfl

theorem TcpStep.mu_lt (h : TcpStep s s') : mu s' < mu s := by
  cases h <;> simp +arith [mu, TcpPc.rank, *]

theorem PrxStep.mu_lt (h : PrxStep s ok s') : mu s' < mu s := by
  cases h
  case pop t q _ hq => cases t <;> simp +arith [mu, resolve, hq]
  case deliver hh _ => obtain ⟨hb, _, _⟩ := head_frame hh; simp +arith [mu, hb]; omega
  case dropped hh => obtain ⟨hb, _, _⟩ := head_frame hh; simp +arith [mu, RxPc.rank, *]
  all_goals simp +arith [mu, RxPc.rank, *]

theorem DispStep.mu_lt (h : DispStep s s') : mu s' < mu s := by
  cases h <;> simp +arith [mu, DispPc.rank, *] <;> omega

theorem Step.mu_lt (hl : l.internal = true) (h : Step s l s') : mu s' < mu s := by
  cases h
  case tcp h => exact h.mu_lt
  case prx h => exact h.mu_lt
  case disp h => exact h.mu_lt
  all_goals cases hl

/-- Invariant of the code that exists (non-blocking receive loop, send loop that goes on after a failed block), by position of the connection thread.
`alive`: up to `discon` the receiver thread runs, nobody has asked it to stop, and the session is connected.  `sepSeen` (at `sepWait`) and `joining`
(at `join`) are the two clauses that make the thread waited for move (`progress`): the unresolved Separate.req is still ahead of the receiver
thread — its trigger is set, or it stands before or in the send loop —, and a receiver thread that has not exited has the stop flag up and, if
it sleeps, its trigger set.  `sepQueued` only keeps `sepSeen` inductive (a send loop that finds the queue empty has resolved the request).
`cleared`, `doneBuf`, `started` describe the torn-down state (`close_completes_of_inv`, `C09.closed_is_clean`, the ghost bookkeeping at `connect`);
`noBlocked`: this variant never enters the blocking read. -/
structure Inv (s : St) : Prop where
  noBlocked : s.prx ≠ .blockedRead
  alive : s.tcp = .running ∨ s.tcp = .sepEnq ∨ s.tcp = .sepWait ∨ s.tcp = .discon → s.prx.alive = true ∧ s.stopRx = false ∧ s.conn = true
  sepQueued : s.tcp = .sepWait → s.sepRes = true ∨ Tag.sep ∈ s.sendQ
  sepSeen : s.tcp = .sepWait → s.sepRes = false → s.rxTrig = true ∨ s.prx = .chk ∨ s.prx = .send
  joining : s.tcp = .join → s.conn = false ∧ (s.prx = .exited ∨ (s.stopRx = true ∧ s.prx.alive = true ∧ (s.prx = .idle → s.rxTrig = true)))
  cleared : s.tcp = .clear ∨ s.tcp = .done → s.prx.alive = false ∧ s.conn = false
  doneBuf : s.tcp = .done → s.buf = []
  started : s.prx = .notStarted → s.tcp = .done

theorem Inv.alive_running (hi : Inv s) (h : s.tcp = .running) : s.prx.alive = true ∧ s.stopRx = false ∧ s.conn = true := hi.alive (.inl h)
theorem Inv.alive_sepEnq (hi : Inv s) (h : s.tcp = .sepEnq) : s.prx.alive = true ∧ s.stopRx = false ∧ s.conn = true := hi.alive (.inr (.inl h))
theorem Inv.alive_sepWait (hi : Inv s) (h : s.tcp = .sepWait) : s.prx.alive = true ∧ s.stopRx = false ∧ s.conn = true :=
  hi.alive (.inr (.inr (.inl h)))
theorem Inv.alive_discon (hi : Inv s) (h : s.tcp = .discon) : s.prx.alive = true ∧ s.stopRx = false ∧ s.conn = true :=
  hi.alive (.inr (.inr (.inr h)))

theorem inv_init : Inv St.init := by
  constructor <;> simp [St.init, RxPc.alive]

/-- The invariant reads `tcp`, `prx`, `stopRx`, `conn`, `sepRes`, and `buf` once the connection thread is done; it is monotone in `rxTrig`
and in the contents of `sendQ`.  That is all the dispatcher thread and an arriving chunk touch. -/
theorem Inv.frame (hi : Inv s) (htcp : s'.tcp = s.tcp) (hprx : s'.prx = s.prx) (hstop : s'.stopRx = s.stopRx)
    (hconn : s'.conn = s.conn) (hres : s'.sepRes = s.sepRes) (hbuf : s'.buf = s.buf ∨ s.tcp ≠ .done)
    (htrig : s.rxTrig = true → s'.rxTrig = true) (hq : Tag.sep ∈ s.sendQ → Tag.sep ∈ s'.sendQ) : Inv s' where
  noBlocked := hprx ▸ hi.noBlocked
  alive := by rw [htcp, hprx, hstop, hconn]; exact hi.alive
  sepQueued := by rw [htcp, hres]; exact fun h => (hi.sepQueued h).imp_right hq
  sepSeen := by rw [htcp, hres, hprx]; exact fun h h' => (hi.sepSeen h h').imp_left htrig
  joining := by
    rw [htcp, hprx, hstop, hconn]
    exact fun h => ⟨(hi.joining h).1, (hi.joining h).2.imp_right fun ⟨a, b, c⟩ => ⟨a, b, fun i => htrig (c i)⟩⟩
  cleared := by rw [htcp, hprx, hconn]; exact hi.cleared
  doneBuf := by rw [htcp]; exact fun h => hbuf.elim (· ▸ hi.doneBuf h) (absurd h)
  started := by rw [htcp, hprx]; exact hi.started

theorem DispStep.inv (hi : Inv s) (h : DispStep s s') : Inv s' := by
  cases h
  case answer => exact hi.frame rfl rfl rfl rfl rfl (.inl rfl) (fun _ => rfl) (List.mem_append_left _)
  all_goals exact hi.frame rfl rfl rfl rfl rfl (.inl rfl) id id

/-- Each step of the close sequence establishes the clauses of its new position from the one or two clauses of the old one. -/
theorem TcpStep.inv (hi : Inv s) (h : TcpStep s s') : Inv s' := by
  have := hi.noBlocked
  -- the connection thread is not at `done`, so the receiver thread has been started
  have : s.prx ≠ .notStarted := fun e => by have := hi.started e; cases h <;> simp_all
  cases h
  case sepEnq ht => have ⟨_, _, _⟩ := hi.alive_sepEnq ht; constructor <;> simp [*]
  case sepDone ht _ => have ⟨_, _, _⟩ := hi.alive_sepWait ht; constructor <;> simp [*]
  case stop ht _ => have ⟨_, _, _⟩ := hi.alive_discon ht; constructor <;> simp [*]
  case noStop ht _ => have := hi.alive_discon ht; simp_all
  case joined ht _ => have ⟨_, _⟩ := hi.joining ht; constructor <;> simp [*, RxPc.alive]
  case clear ht => have ⟨_, _⟩ := hi.cleared (.inl ht); constructor <;> simp [*]

/-- The receiver thread leaves `tcp` and `conn` alone, so each clause is about the same position of the connection thread before and after. -/
theorem PrxStep.inv (hi : Inv s) (h : PrxStep s ok s') : Inv s' where
  noBlocked := by have := hi.noBlocked; cases h <;> simp_all [resolve_eq]
  started := fun hn => absurd hn h.started
  alive := by
    rw [h.tcp_eq, h.conn_eq]
    intro ht
    have := hi.alive ht
    cases h <;> simp_all [resolve_eq, RxPc.alive]
  sepQueued := by
    rw [h.tcp_eq]
    intro ht
    have := hi.sepQueued ht
    cases h
    case pop t q _ _ => cases t <;> simp_all [resolve]
    all_goals exact this
  sepSeen := by
    rw [h.tcp_eq]
    intro ht
    -- `stop`: the flag is down while the Separate.req is awaited; `sent`: an empty queue means it has been resolved
    have := hi.alive_sepWait ht
    have := hi.sepQueued ht
    have := hi.sepSeen ht
    have := hi.noBlocked
    cases h <;> simp_all [resolve_eq]
  joining := by
    rw [h.tcp_eq, h.conn_eq]
    intro ht
    have := hi.joining ht
    cases h <;> simp_all [resolve_eq, RxPc.alive]
  cleared := by
    rw [h.tcp_eq]
    exact fun ht => absurd h.alive (by simp [(hi.cleared ht).1])
  doneBuf := by
    rw [h.tcp_eq]
    exact fun ht => absurd h.alive (by simp [(hi.cleared (.inr ht)).1])

theorem Step.inv (hi : Inv s) (h : Step s l s') : Inv s' := by
  cases h
  case connect => constructor <;> simp [RxPc.alive]
  case chunk ht => exact hi.frame rfl rfl rfl rfl rfl (.inr (by simp [ht])) (fun _ => rfl) id
  case close ht => have := hi.alive_running ht; have := hi.started; have := hi.noBlocked; constructor <;> simp_all
  case tcp h => exact h.inv hi
  case prx h => exact h.inv hi
  case disp h => exact h.inv hi

theorem prx_enabled_indep (v : Variant) (s : St) (ok : Bool) : (stepPrx v s ok).isSome = (stepPrx v s true).isSome := by
  unfold stepPrx
  cases s.prx
  -- only the `send` position reads `ok`
  case send =>
    dsimp only
    split
    · rfl
    · -- a queued block: sent or failed, there is a successor
      cases ok
      · simp only [Bool.false_eq_true, if_false, if_true]; split <;> rfl
      · rfl
  all_goals rfl

theorem prx_isSome (ok : Bool) (ha : s.prx.alive = true) (hb : s.prx ≠ .blockedRead) (hw : s.prx = .idle → s.rxTrig = true) :
    (stepPrx .current s ok).isSome = true := by
  fun_cases stepPrx .current s ok <;> simp_all [RxPc.alive]

/-- the `true` is no restriction: a send that fails enables the same steps (`prx_enabled_indep`) -/
theorem progress (s : St) (hi : Inv s) (hc : s.tcp.closing = true) : (stepTcp s).isSome = true ∨ (stepPrx .current s true).isSome = true := by
  cases ht : s.tcp <;> simp [ht, TcpPc.closing] at hc
  · left; simp [stepTcp, ht]
  · cases hr : s.sepRes
    · -- the Separate.req is queued and will be seen
      have ⟨ha, _⟩ := hi.alive_sepWait ht
      refine .inr (prx_isSome true ha hi.noBlocked fun hp => ?_)
      simpa [hp] using hi.sepSeen ht hr
    · left; simp [stepTcp, ht, hr]
  · left; simp only [stepTcp, ht]; split <;> rfl
  · rcases (hi.joining ht).2 with he | ⟨_, ha, hw⟩
    · left; simp [stepTcp, ht, he]
    · exact .inr (prx_isSome true ha hi.noBlocked hw)
  · left; simp [stepTcp, ht]

theorem not_wedged_of_inv (s : St) (hi : Inv s) : wedged .current s = false := by
  cases hc : s.tcp.closing with
  | false => simp [wedged, hc]
  | true => rcases progress s hi hc with h | h <;> simp [wedged, quiescent, internals, step, Option.isSome_iff_ne_none.1 h]

/-- In a tactic block name the motive, `(P := fun s => …)`: `refine` does not infer it from the goal. -/
theorem run_induction {P : St → Prop} : ∀ (ls : List Lbl) (s s' : St), (∀ l ∈ ls, ∀ s s', Step s l s' → P s → P s') →
    P s → run .current s ls = some s' → P s'
  | [], _, _, _, hp, h => by cases h; exact hp
  | l :: ls, s, s', hstep, hp, h => by
    simp only [run] at h
    split at h
    · exact run_induction ls _ s' (fun x hx => hstep x (.tail _ hx)) (hstep l (.head _) _ _ (.of_eq ‹_›) hp) h
    · cases h

theorem run_bound : ∀ (ls : List Lbl) (s s' : St), (∀ l ∈ ls, l.internal = true) → run .current s ls = some s' →
    mu s' + ls.length ≤ mu s
  | [], _, _, _, h => by cases h; simp
  | l :: ls, s, s', hl, h => by
    simp only [run] at h
    split at h
    · have := (Step.of_eq ‹_›).mu_lt (hl l (.head _))
      have := run_bound ls _ s' (fun x hx => hl x (.tail _ hx)) h
      simp only [List.length_cons]; omega
    · cases h

/-- reachable in the model of the code that exists, by any history (failing sends included) -/
def Reachable (s : St) : Prop := ∃ ls, run .current St.init ls = some s

theorem Reachable.induction {P : St → Prop} (h0 : P St.init) (hstep : ∀ l s s', Step s l s' → P s → P s') (h : Reachable s) : P s :=
  h.elim fun ls hr => run_induction ls _ s (fun l _ => hstep l) h0 hr

theorem run_append (v : Variant) : ∀ (l₁ l₂ : List Lbl) (s : St), run v s (l₁ ++ l₂) = (run v s l₁).bind (run v · l₂)
  | [], _, _ => rfl
  | l :: l₁, l₂, s => by
    simp only [List.cons_append, run]
    cases step v s l with
    | none => rfl
    | some s1 => exact run_append v l₁ l₂ s1

theorem reachable_run (s s' : St) (ls : List Lbl) (h : Reachable s) (hr : run .current s ls = some s') : Reachable s' :=
  h.elim fun l0 h0 => ⟨l0 ++ ls, by rw [run_append, h0]; exact hr⟩

theorem inv_reachable (s : St) (h : Reachable s) : Inv s := h.induction inv_init fun _ _ _ h hi => h.inv hi

theorem Step.no_restart (hl : l.internal = true) (h : Step s l s') (hc : s.tcp ≠ .running ∧ s.prx ≠ .notStarted) :
    s'.tcp ≠ .running ∧ s'.prx ≠ .notStarted := by
  cases h
  case tcp h => cases h <;> exact ⟨nofun, hc.2⟩
  case prx h => exact ⟨h.tcp_eq ▸ hc.1, h.started⟩
  case disp h => cases h <;> exact hc
  all_goals cases hl

/-- `C09.close_completes` from any state that satisfies the invariant, reachable or not -/
theorem close_completes_of_inv {ls : List Lbl} (hi : Inv s) (hc : s.tcp.closing = true)
    (hl : ∀ l ∈ ls, l.internal = true) (hr : run .current s ls = some s') (hq : quiescent .current s' = true) :
    ls.length ≤ mu s ∧ s'.tcp = .done ∧ s'.conn = false ∧ s'.buf = [] ∧ s'.prx = .exited := by
  have hb := run_bound ls s s' hl hr
  have hi' : Inv s' := run_induction ls s s' (fun _ _ _ _ h hi => h.inv hi) hi hr
  -- the close sequence began from a connected state, so the receiver thread was started
  have hs : s.tcp ≠ .running ∧ s.prx ≠ .notStarted :=
    ⟨fun e => by simp [e, TcpPc.closing] at hc, fun e => by simp [hi.started e, TcpPc.closing] at hc⟩
  have ⟨hnr, hns⟩ := run_induction ls s s' (fun l hm _ _ h => h.no_restart (hl l hm)) hs hr
  have hcl : s'.tcp.closing = false := by simpa [wedged, hq] using not_wedged_of_inv s' hi'
  have hdone : s'.tcp = .done := by
    revert hcl hnr; cases s'.tcp <;> simp [TcpPc.closing]
  have ⟨ha, hconn⟩ := hi'.cleared (.inr hdone)
  refine ⟨by omega, hdone, hconn, hi'.doneBuf hdone, ?_⟩
  revert ha hns; cases s'.prx <;> simp [RxPc.alive]

/-- while connected (`tcp ≠ done`) and no frame was dropped by a decode exception: the run of the receive loop over the bytes received
on *this* connection = the blocks delivered since the connect, followed by what the loop would still make of the buffer -/
def Ghost (s : St) : Prop :=
  s.mark ≤ s.delivered.length ∧
  (s.tcp ≠ .done → s.rxErr = false →
    extract s.fed = ⟨s.delivered.drop s.mark ++ (extract s.buf).frames, (extract s.buf).rest, (extract s.buf).aborted⟩)

theorem ghost_init : Ghost St.init := by
  simp [Ghost, St.init]

/-- `Ghost` reads the five fields below and whether the connection thread is done: most steps touch none of that -/
theorem Ghost.frame (hg : Ghost s) (hmark : s'.mark = s.mark) (hdel : s'.delivered = s.delivered) (hfed : s'.fed = s.fed)
    (hbuf : s'.buf = s.buf) (herr : s'.rxErr = s.rxErr) (htcp : s'.tcp = s.tcp ∨ s.tcp ≠ .done) : Ghost s' := by
  unfold Ghost
  rw [hmark, hdel, hfed, hbuf, herr]
  exact ⟨hg.1, fun h => hg.2 (htcp.elim (· ▸ h) id)⟩

theorem Step.ghost (hi : Inv s) (hg : Ghost s) (h : Step s l s') : Ghost s' := by
  cases h
  case connect ht => simp [Ghost, hi.doneBuf ht, extract_nil]
  case chunk c ht =>
    refine ⟨hg.1, fun _ he => ?_⟩
    simp only
    rw [extract_resume s.fed c, extract_resume s.buf c, hg.2 (by simp [ht]) he]
    cases (extract s.buf).aborted <;> simp
  case close ht => exact hg.frame rfl rfl rfl rfl rfl (.inr (by simp [ht]))
  case tcp h =>
    cases h
    case clear => exact ⟨hg.1, fun hne _ => absurd rfl hne⟩
    all_goals exact hg.frame rfl rfl rfl rfl rfl (.inr (by simp [*]))
  case prx h =>
    cases h
    case pop t _ _ _ => cases t <;> exact hg.frame rfl rfl rfl rfl rfl (.inl rfl)
    case deliver raw rest b _ hh hd =>
      obtain ⟨hb, h4, hn⟩ := head_frame hh
      refine ⟨by simp only [List.length_append]; exact Nat.le_add_right_of_le hg.1, fun hne he => ?_⟩
      simp only
      rw [hg.2 hne he, hb, extract_cons raw rest h4 hn, hd, List.drop_append_of_le_length hg.1]
      simp
    case dropped => exact ⟨hg.1, fun _ he => by simp at he⟩
    all_goals exact hg.frame rfl rfl rfl rfl rfl (.inl rfl)
  case disp h => cases h <;> exact hg.frame rfl rfl rfl rfl rfl (.inl rfl)

theorem ghost_reachable (s : St) (h : Reachable s) : Ghost s :=
  (h.induction (P := fun s => Inv s ∧ Ghost s) ⟨inv_init, ghost_init⟩ fun _ _ _ h hp => ⟨h.inv hp.1, h.ghost hp.1 hp.2⟩).2

end SecsModel.Proofs.HsmsWedge
