import SecsModel.Model.SecsILine
/-! Stage invariant of the SECS-I line protocol model (`Model.SecsILine`) and its inductiveness (C17).  Per block the line is in one of
`queued → ENQ sent → EOT sent → block sent → ACK/NAK sent → resolved` (`Stage`), with `a.rxbuf ++ ba` and `b.rxbuf ++ ab` fixed per stage,
whatever their split between buffer and line.  Deliveries and the moves of a thread that has nothing to do keep every stage
(`inv_stutter`); the four transmissions of a block's cycle, the reading of the answer and the moves of `send_message` lead from stage to
stage (`inv_step`). -/
namespace SecsModel.Proofs.SecsILine
open SecsModel SecsModel.Model.SecsI SecsModel.Model.SecsILine

section thread
variable {e : End} {n : Bool} {l r : Nat} {rest blk : Bytes} {qs todo : List Bytes}

theorem thrStep_idle (hpc : e.pc = .idle) :
    thrStep e = if e.trig then some ({ e with trig := false, pc := .sendTop }, []) else none := by
  simp only [thrStep, hpc]

theorem thrStep_sendTop_nil (hpc : e.pc = .sendTop) (hq : e.sendQ = []) :
    thrStep e = some ({ e with pc := .recvLoop false }, []) := by
  simp only [thrStep, hpc, hq]

theorem thrStep_sendTop_cons (hpc : e.pc = .sendTop) (hq : e.sendQ = blk :: qs) :
    thrStep e = some ({ e with pc := .waitEnq }, [ENQ]) := by
  simp only [thrStep, hpc, hq]

theorem thrStep_blocked (hpc : e.pc = .waitEnq ∨ e.pc = .waitAck ∨ ∃ n, e.pc = .waitBlk n) (hrx : e.rxbuf = []) :
    thrStep e = none := by
  rcases hpc with hpc | hpc | ⟨n, hpc⟩ <;> simp only [thrStep, hpc, hrx]

theorem thrStep_waitEnq_go (hpc : e.pc = .waitEnq) (hrx : e.rxbuf = r :: rest)
    (hq : e.sendQ = blk :: qs) (hr : ¬ (r = ENQ ∧ e.host = true)) :
    thrStep e = some ({ e with rxbuf := rest, sendQ := qs, pc := .waitAck }, blk) := by
  simp only [thrStep, hpc, hrx, hq, hr, if_false]

theorem thrStep_waitAck_cons (hpc : e.pc = .waitAck) (hrx : e.rxbuf = r :: rest) :
    thrStep e = some ({ e with rxbuf := rest, slot := some (decide (r = ACK)), pc := .sendTop }, []) := by
  simp only [thrStep, hpc, hrx]

theorem thrStep_recvLoop_nil (hpc : e.pc = .recvLoop n) (hrx : e.rxbuf = []) :
    thrStep e = some ({ e with pc := ret n }, []) := by
  simp only [thrStep, hpc, hrx]

theorem thrStep_recvLoop_cons (hpc : e.pc = .recvLoop n) (hrx : e.rxbuf = r :: rest) :
    thrStep e = some ({ e with rxbuf := rest, pc := .waitBlk n }, [EOT]) := by
  simp only [thrStep, hpc, hrx]

/-- `wait_for(length + 3)` blocks until the whole frame is in the buffer -/
theorem thrStep_waitBlk_short (hpc : e.pc = .waitBlk n) (hrx : e.rxbuf = l :: rest)
    (hlen : rest.length < l + 2) : thrStep e = none := by
  have : (l :: rest).length < l + 3 := Nat.succ_lt_succ hlen
  simp only [thrStep, hpc, hrx, this, if_true]

theorem thrStep_waitBlk (hpc : e.pc = .waitBlk n) (hrx : e.rxbuf = l :: rest)
    (hlen : l + 2 ≤ rest.length) :
    thrStep e = some (match Block.decode (e.rxbuf.take (l + 3)) with
      | .error _ => ({ e with rxbuf := e.rxbuf.drop (l + 3), pc := .idle }, [])
      | .ok none => ({ e with rxbuf := e.rxbuf.drop (l + 3), pc := ret n }, [NAK])
      | .ok (some blk) => ({ e with rxbuf := e.rxbuf.drop (l + 3), delivered := e.delivered ++ [blk], pc := .recvLoop n }, [ACK])) := by
  have : ¬ (l :: rest).length < l + 3 := Nat.not_lt.mpr (Nat.succ_le_succ hlen)
  simp only [thrStep, hpc, hrx, this, if_false]
  cases Block.decode ((l :: rest).take (l + 3)) with
  | error => rfl
  | ok o => cases o <;> rfl

-- `generalizing := false`: `hd` mentions `o`; by default the `match` would abstract it and take it as an argument
theorem thrStep_waitBlk_frame {o : Option Block} (hpc : e.pc = .waitBlk n)
    (hrx : e.rxbuf = l :: rest) (hlen : rest.length = l + 2) (hd : Block.decode (l :: rest) = .ok o) :
    thrStep e = some (match (generalizing := false) o with
      | none => ({ e with rxbuf := [], pc := ret n }, [NAK])
      | some blk => ({ e with rxbuf := [], delivered := e.delivered ++ [blk], pc := .recvLoop n }, [ACK])) := by
  have hl : (l :: rest).length ≤ l + 3 := Nat.le_of_eq (congrArg Nat.succ hlen)
  rw [thrStep_waitBlk hpc hrx (Nat.le_of_eq hlen.symm), hrx, List.take_of_length_le hl, List.drop_of_length_le hl, hd]
  cases o <;> rfl

theorem appStep_queue (h : e.app = .run (blk :: qs) false) :
    appStep e = some { e with sendQ := e.sendQ ++ [blk], trig := true, slot := none, app := .run (blk :: qs) true } := by
  simp only [appStep, h]

theorem appStep_done (h : e.app = .run [] false) : appStep e = some { e with app := .fin true } := by
  simp only [appStep, h]

theorem appStep_waiting (h : e.app = .run todo true) (hs : e.slot = none) : appStep e = none := by
  simp only [appStep, h, hs]

theorem appStep_resolved {ok : Bool} (h : e.app = .run todo true) (hs : e.slot = some ok) :
    appStep e = some { e with slot := none, app := if ok then .run (todo.drop 1) false else .fin false } := by
  cases ok <;> simp only [appStep, h, hs] <;> rfl

theorem appStep_none (h : e.app = .none) : appStep e = none := by
  simp only [appStep, h]

theorem appStep_fin {ok : Bool} (h : e.app = .fin ok) : appStep e = none := by
  simp only [appStep, h]

end thread

theorem emitA_nil (s : State) (e : End) : emitA s e [] = { s with a := e } := by simp [emitA]
theorem emitA_cons (s : State) (e : End) (x : Nat) (xs : Bytes) :
    emitA s e (x :: xs) = { s with a := e, ab := s.ab ++ tamper s.fault s.txA (x :: xs), txA := s.txA + 1, log := s.log ++ [(true, x :: xs)] } := by
  simp [emitA]
theorem emitB_nil (s : State) (e : End) : emitB s e [] = { s with b := e } := by simp [emitB]
theorem emitB_cons (s : State) (e : End) (x : Nat) (xs : Bytes) :
    emitB s e (x :: xs) = { s with b := e, ba := s.ba ++ (x :: xs), log := s.log ++ [(false, x :: xs)] } := by
  simp [emitB]

theorem step_cases {P : State → Prop} {s s' : State} {l : Label} (h : step s l = some s')
    (thrA : ∀ e tx, thrStep s.a = some (e, tx) → P (emitA s e tx))
    (thrB : ∀ e tx, thrStep s.b = some (e, tx) → P (emitB s e tx))
    (appA : ∀ e, appStep s.a = some e → P { s with a := e })
    (appB : ∀ e, appStep s.b = some e → P { s with b := e })
    (dlvA : ∀ n, 0 < n → n ≤ s.ba.length →
      P { s with a := { s.a with rxbuf := s.a.rxbuf ++ s.ba.take n, trig := true }, ba := s.ba.drop n })
    (dlvB : ∀ n, 0 < n → n ≤ s.ab.length →
      P { s with b := { s.b with rxbuf := s.b.rxbuf ++ s.ab.take n, trig := true }, ab := s.ab.drop n }) : P s' := by
  cases l with
  | thr isA =>
    cases isA <;> simp only [step, Option.map_eq_some_iff] at h <;> obtain ⟨⟨e, tx⟩, ht, rfl⟩ := h
    · exact thrB e tx ht
    · exact thrA e tx ht
  | app isA =>
    cases isA <;> simp only [step, Option.map_eq_some_iff] at h <;> obtain ⟨e, ht, rfl⟩ := h
    · exact appB e ht
    · exact appA e ht
  | dlv toA n =>
    cases toA <;> simp only [step, Option.ite_none_right_eq_some, Option.some.injEq] at h <;> obtain ⟨⟨h0, hn⟩, rfl⟩ := h
    · exact dlvB n h0 hn
    · exact dlvA n h0 hn

def Framed (enc : Bytes) (blk : Block) : Prop :=
  ∃ l rest, enc = l :: rest ∧ rest.length = l + 2 ∧ Block.decode enc = .ok (some blk)

/-- the fixed parameters of a transfer: the (encoding, block) pairs and the optional line fault `(j, t, v)` = byte `t` of block `j` arrives as `v` -/
structure Ctx where
  pairs : List (Bytes × Block)
  bad : Option (Nat × Nat × Nat)

/-- the fault as the model counts it: `a`'s transmissions alternate handshake byte (even) and block (odd), block `j` is number `2 * j + 1` -/
def Ctx.fault (ctx : Ctx) : Option (Nat × Nat × Nat) := ctx.bad.map (fun b => (2 * b.1 + 1, b.2.1, b.2.2))

def Ctx.isBad (ctx : Ctx) (done : Nat) : Bool := match ctx.bad with | some (j, _, _) => decide (done = j) | none => false

def Ctx.wire (ctx : Ctx) (done : Nat) (enc : Bytes) : Bytes :=
  match ctx.bad with | some (j, t, v) => if done = j then enc.set t v else enc | none => enc

def Ctx.notPast (ctx : Ctx) (done : Nat) : Prop := ∀ j t v, ctx.bad = some (j, t, v) → done ≤ j

/-- the thread does nothing observable from here while its queue and buffer are empty -/
def Q (pc : TPc) : Prop := pc = .idle ∨ pc = .sendTop ∨ pc = .recvLoop false

def answer (ok : Bool) : Nat := if ok then ACK else NAK

def cycle (enc : Bytes) (ok : Bool) : List (Bool × Bytes) := [(true, [ENQ]), (false, [EOT]), (true, enc), (false, [answer ok])]

theorem transcript_append (xs : List Bytes) (enc : Bytes) : transcript (xs ++ [enc]) = transcript xs ++ cycle enc true := by
  induction xs with
  | nil => rfl
  | cons x xs ih => simp only [List.cons_append, transcript, ih]

theorem answer_ack (ok : Bool) : decide (answer ok = ACK) = ok := by cases ok <;> decide

theorem Ctx.isBad_eq_true {ctx : Ctx} {d : Nat} : ctx.isBad d = true ↔ ∃ t v, ctx.bad = some (d, t, v) := by
  unfold Ctx.isBad
  cases ctx.bad with
  | none => simp
  | some b =>
    obtain ⟨j, t, v⟩ := b
    simp only [decide_eq_true_eq, Option.some.injEq, Prod.mk.injEq]
    exact ⟨fun h => ⟨t, v, h.symm, rfl, rfl⟩, fun ⟨_, _, h, _⟩ => h.symm⟩

theorem Ctx.wire_of_bad {ctx : Ctx} {d t v : Nat} (h : ctx.bad = some (d, t, v)) (enc : Bytes) : ctx.wire d enc = enc.set t v := by
  simp only [Ctx.wire, h, if_true]

theorem Ctx.wire_of_not_bad {ctx : Ctx} {d : Nat} (h : ctx.isBad d = false) (enc : Bytes) : ctx.wire d enc = enc := by
  unfold Ctx.wire
  unfold Ctx.isBad at h
  split
  · rename_i j t v hb; rw [hb, decide_eq_false_iff_not] at h; rw [if_neg h]
  · rfl

theorem Ctx.notPast.succ {ctx : Ctx} {d : Nat} (hnp : ctx.notPast d) (h : ctx.isBad d = false) : ctx.notPast (d + 1) := by
  intro j t v hb
  have hne : d ≠ j := fun he => by rw [Ctx.isBad_eq_true.mpr ⟨t, v, he ▸ hb⟩] at h; cases h
  have := hnp j t v hb
  omega

theorem tamper_even (ctx : Ctx) (d : Nat) (bs : Bytes) : tamper ctx.fault (2 * d) bs = bs := by
  unfold tamper Ctx.fault
  cases ctx.bad with
  | none => rfl
  | some b => exact if_neg (show ¬ 2 * b.1 + 1 = 2 * d by omega)

theorem tamper_odd (ctx : Ctx) (d : Nat) (bs : Bytes) : tamper ctx.fault (2 * d + 1) bs = ctx.wire d bs := by
  unfold tamper Ctx.fault Ctx.wire
  cases ctx.bad with
  | none => rfl
  | some b =>
    by_cases h : d = b.1
    · exact (if_pos (show 2 * b.1 + 1 = 2 * d + 1 by rw [h])).trans (if_pos h).symm
    · exact (if_neg (show ¬ 2 * b.1 + 1 = 2 * d + 1 from
        fun e => h (Nat.eq_of_mul_eq_mul_left (by decide) (Nat.succ.inj e)).symm)).trans (if_neg h).symm

/-- the faulty block, if any: one of the blocks, corrupted at an offset ≥ 1 (not the length byte), and answered `None` by `Block.decode`
(what `Proofs.SecsI.decode_set` gives for an altered header, data or checksum byte) -/
def BadOK (ctx : Ctx) : Prop :=
  ∀ j t v, ctx.bad = some (j, t, v) →
    ∃ enc blk, ctx.pairs[j]? = some (enc, blk) ∧ 1 ≤ t ∧ t < enc.length ∧ Block.decode (enc.set t v) = .ok none

theorem wire_framed {ctx : Ctx} (hbad : BadOK ctx) {done rest : List (Bytes × Block)} {enc : Bytes} {blk : Block}
    (hsplit : ctx.pairs = done ++ (enc, blk) :: rest) (hf : Framed enc blk) :
    ∃ l r, ctx.wire done.length enc = l :: r ∧ r.length = l + 2 ∧
      Block.decode (ctx.wire done.length enc) = .ok (if ctx.isBad done.length then none else some blk) := by
  obtain ⟨l, r0, rfl, hlen, hdec⟩ := hf
  cases hib : ctx.isBad done.length with
  | false => rw [Ctx.wire_of_not_bad hib]; exact ⟨l, r0, rfl, hlen, hdec⟩
  | true =>
    obtain ⟨t, v, hb⟩ := Ctx.isBad_eq_true.mp hib
    obtain ⟨enc', blk', hg, ht1, _, hrej⟩ := hbad _ t v hb
    rw [hsplit, List.getElem?_append_right (Nat.le_refl _), Nat.sub_self, List.getElem?_cons_zero] at hg
    cases hg
    obtain ⟨t', rfl⟩ : ∃ t', t = t' + 1 := ⟨t - 1, by omega⟩
    rw [Ctx.wire_of_bad hb]
    exact ⟨l, r0.set t' v, rfl, by rw [List.length_set, hlen], hrej⟩

/-- what does not depend on the stage; `btrig`: `b` is not idle and untriggered with unread bytes -/
structure Common (ctx : Ctx) (done todo : List (Bytes × Block)) (s : State) : Prop where
  split : ctx.pairs = done ++ todo
  bq : s.b.sendQ = []
  bapp : s.b.app = .none
  flt : s.fault = ctx.fault
  btrig : s.b.pc = .idle → s.b.rxbuf ≠ [] → s.b.trig = true

/-- the stages of the transfer of the block after `done` (`todo`: that block and those behind it).  At most one of `a.rxbuf ++ ba`,
`b.rxbuf ++ ab` is non-empty, `hpend` says with what, however it is split between buffer and line; a thread whose position is only
known as `Q` has nothing to do.
* `s0` between blocks: `send_message` is about to queue the next block, or to return `True` if none is left
* `s1` block queued, `send_message` waits on the slot; `a`'s thread has not passed the send loop's test yet and will (`hatrig`)
* `s2` ENQ on its way to `b`
* `s3` `b`'s EOT on its way to `a`
* `s4` the block, as the line delivers it (`ctx.wire`), on its way to `b`
* `s5` `b`'s ACK (block delivered) or NAK (faulty block, nothing delivered) on its way to `a`
* `s6` answer read, slot set: `send_message` is about to go on (`s0`, the block moved to `done`) or to return `False` (`finBad`)
* `finOk`, `finBad`: `send_message` has returned `True` / `False`

`txA` counts `a`'s transmissions (two per block), `log` is the transcript so far. -/
inductive Stage (ctx : Ctx) (done todo : List (Bytes × Block)) (s : State) : Prop
  | s0 (happ : s.a.app = .run (todo.map (·.1)) false) (hq : s.a.sendQ = []) (hpa : Q s.a.pc) (hpb : Q s.b.pc)
      (harx : s.a.rxbuf = []) (hba : s.ba = []) (hbrx : s.b.rxbuf = []) (hab : s.ab = [])
      (hdel : s.b.delivered = done.map (·.2)) (hlog : s.log = transcript (done.map (·.1))) (htx : s.txA = 2 * done.length)
      (hnp : ctx.notPast done.length)
  | s1 (enc : Bytes) (blk : Block) (rest : List (Bytes × Block)) (htodo : todo = (enc, blk) :: rest)
      (happ : s.a.app = .run (todo.map (·.1)) true) (hq : s.a.sendQ = [enc]) (hslot : s.a.slot = none) (hpa : Q s.a.pc)
      (hatrig : s.a.pc = .sendTop ∨ s.a.trig = true) (hpb : Q s.b.pc)
      (harx : s.a.rxbuf = []) (hba : s.ba = []) (hbrx : s.b.rxbuf = []) (hab : s.ab = [])
      (hdel : s.b.delivered = done.map (·.2)) (hlog : s.log = transcript (done.map (·.1))) (htx : s.txA = 2 * done.length)
      (hnp : ctx.notPast done.length)
  | s2 (enc : Bytes) (blk : Block) (rest : List (Bytes × Block)) (htodo : todo = (enc, blk) :: rest)
      (happ : s.a.app = .run (todo.map (·.1)) true) (hq : s.a.sendQ = [enc]) (hslot : s.a.slot = none) (hpa : s.a.pc = .waitEnq)
      (hpb : Q s.b.pc) (harx : s.a.rxbuf = []) (hba : s.ba = []) (hpend : s.b.rxbuf ++ s.ab = [ENQ])
      (hdel : s.b.delivered = done.map (·.2)) (hlog : s.log = transcript (done.map (·.1)) ++ (cycle enc true).take 1)
      (htx : s.txA = 2 * done.length + 1) (hnp : ctx.notPast done.length)
  | s3 (enc : Bytes) (blk : Block) (rest : List (Bytes × Block)) (htodo : todo = (enc, blk) :: rest)
      (happ : s.a.app = .run (todo.map (·.1)) true) (hq : s.a.sendQ = [enc]) (hslot : s.a.slot = none) (hpa : s.a.pc = .waitEnq)
      (hpb : s.b.pc = .waitBlk false) (hpend : s.a.rxbuf ++ s.ba = [EOT]) (hbrx : s.b.rxbuf = []) (hab : s.ab = [])
      (hdel : s.b.delivered = done.map (·.2)) (hlog : s.log = transcript (done.map (·.1)) ++ (cycle enc true).take 2)
      (htx : s.txA = 2 * done.length + 1) (hnp : ctx.notPast done.length)
  | s4 (enc : Bytes) (blk : Block) (rest : List (Bytes × Block)) (htodo : todo = (enc, blk) :: rest)
      (happ : s.a.app = .run (todo.map (·.1)) true) (hq : s.a.sendQ = []) (hslot : s.a.slot = none) (hpa : s.a.pc = .waitAck)
      (hpb : s.b.pc = .waitBlk false) (harx : s.a.rxbuf = []) (hba : s.ba = []) (hpend : s.b.rxbuf ++ s.ab = ctx.wire done.length enc)
      (hdel : s.b.delivered = done.map (·.2)) (hlog : s.log = transcript (done.map (·.1)) ++ (cycle enc true).take 3)
      (htx : s.txA = 2 * done.length + 2) (hnp : ctx.notPast done.length)
  | s5 (enc : Bytes) (blk : Block) (rest : List (Bytes × Block)) (htodo : todo = (enc, blk) :: rest)
      (happ : s.a.app = .run (todo.map (·.1)) true) (hq : s.a.sendQ = []) (hslot : s.a.slot = none) (hpa : s.a.pc = .waitAck)
      (hpb : Q s.b.pc) (hpend : s.a.rxbuf ++ s.ba = [answer (!ctx.isBad done.length)]) (hbrx : s.b.rxbuf = []) (hab : s.ab = [])
      (hdel : s.b.delivered = done.map (·.2) ++ (if ctx.isBad done.length then [] else [blk]))
      (hlog : s.log = transcript (done.map (·.1)) ++ cycle enc (!ctx.isBad done.length))
      (htx : s.txA = 2 * done.length + 2) (hnp : ctx.notPast done.length)
  | s6 (enc : Bytes) (blk : Block) (rest : List (Bytes × Block)) (htodo : todo = (enc, blk) :: rest)
      (happ : s.a.app = .run (todo.map (·.1)) true) (hq : s.a.sendQ = []) (hslot : s.a.slot = some (!ctx.isBad done.length)) (hpa : Q s.a.pc)
      (hpb : Q s.b.pc) (harx : s.a.rxbuf = []) (hba : s.ba = []) (hbrx : s.b.rxbuf = []) (hab : s.ab = [])
      (hdel : s.b.delivered = done.map (·.2) ++ (if ctx.isBad done.length then [] else [blk]))
      (hlog : s.log = transcript (done.map (·.1)) ++ cycle enc (!ctx.isBad done.length))
      (htx : s.txA = 2 * done.length + 2) (hnp : ctx.notPast done.length)
  | finOk (htodo : todo = []) (happ : s.a.app = .fin true) (hq : s.a.sendQ = []) (hpa : Q s.a.pc) (hpb : Q s.b.pc)
      (harx : s.a.rxbuf = []) (hba : s.ba = []) (hbrx : s.b.rxbuf = []) (hab : s.ab = [])
      (hdel : s.b.delivered = done.map (·.2)) (hlog : s.log = transcript (done.map (·.1))) (hnp : ctx.notPast done.length)
  | finBad (enc : Bytes) (blk : Block) (rest : List (Bytes × Block)) (htodo : todo = (enc, blk) :: rest) (hbad : ctx.isBad done.length = true)
      (happ : s.a.app = .fin false) (hq : s.a.sendQ = []) (hpa : Q s.a.pc) (hpb : Q s.b.pc)
      (harx : s.a.rxbuf = []) (hba : s.ba = []) (hbrx : s.b.rxbuf = []) (hab : s.ab = [])
      (hdel : s.b.delivered = done.map (·.2)) (hlog : s.log = transcript (done.map (·.1)) ++ cycle enc false)

def Inv (ctx : Ctx) (s : State) : Prop := ∃ done todo, Common ctx done todo s ∧ Stage ctx done todo s

theorem inv_init (ctx : Ctx) (h : Bool) : Inv ctx (sys h (ctx.pairs.map (·.1)) ctx.fault).init :=
  ⟨[], ctx.pairs, ⟨rfl, rfl, rfl, rfl, fun _ h => absurd rfl h⟩,
    .s0 rfl rfl (Or.inl rfl) (Or.inl rfl) rfl rfl rfl rfl rfl rfl rfl (fun _ _ _ _ => Nat.zero_le _)⟩

theorem stage_brx_empty_of_quiet {ctx : Ctx} {done todo} {s : State} (hst : Stage ctx done todo s) (hne : ∀ x, s.b.rxbuf ++ s.ab ≠ [x] ∨ s.b.rxbuf = []) (hq : Q s.b.pc) :
    s.b.rxbuf = [] := by
  cases hst with
  | s0 _ _ _ _ _ _ hbrx | s1 _ _ _ _ _ _ _ _ _ _ _ _ hbrx | s5 _ _ _ _ _ _ _ _ _ _ hbrx | s6 _ _ _ _ _ _ _ _ _ _ _ hbrx
  | finOk _ _ _ _ _ _ _ hbrx | finBad _ _ _ _ _ _ _ _ _ _ _ hbrx => exact hbrx
  | s2 _ _ _ _ _ _ _ _ _ _ _ hpend => exact (hne ENQ).resolve_left fun h => h hpend
  | s3 _ _ _ _ _ _ _ _ hpb | s4 _ _ _ _ _ _ _ _ hpb => rw [hpb] at hq; simp [Q] at hq

theorem eot_ne_enq : (EOT : Nat) ≠ ENQ := by decide

theorem cons_append_eq_singleton {r x : Nat} {rs m : Bytes} (h : r :: rs ++ m = [x]) : r = x ∧ rs = [] ∧ m = [] := by
  rw [List.cons_append, List.cons.injEq, List.append_eq_nil_iff] at h; exact h

section steps
variable {ctx : Ctx} {done todo : List (Bytes × Block)} {s : State} {e : End} {tx : Bytes}

theorem thr_quiet {e e' : End} {tx : Bytes} (hq : Q e.pc) (hsq : e.pc = .sendTop → e.sendQ = [])
    (hrx : e.pc = .recvLoop false → e.rxbuf = []) (h : thrStep e = some (e', tx)) :
    ∃ pc' tr', Q pc' ∧ e' = { e with pc := pc', trig := tr' } ∧ tx = [] ∧ (pc' = .sendTop ∨ tr' = e.trig)
      ∧ (pc' = .idle → e.pc = .recvLoop false) := by
  rcases hq with hpc | hpc | hpc
  · rw [thrStep_idle hpc] at h
    cases ht : e.trig <;> rw [ht] at h <;> cases h
    exact ⟨.sendTop, false, Or.inr (Or.inl rfl), rfl, rfl, Or.inl rfl, fun h => nomatch h⟩
  · rw [thrStep_sendTop_nil hpc (hsq hpc)] at h; cases h
    exact ⟨.recvLoop false, e.trig, Or.inr (Or.inr rfl), rfl, rfl, Or.inr rfl, fun h => nomatch h⟩
  · rw [thrStep_recvLoop_nil hpc (hrx hpc)] at h; cases h
    exact ⟨.idle, e.trig, Or.inl rfl, rfl, rfl, Or.inr rfl, fun _ => hpc⟩

/-- **stuttering**: a stage reads the receive buffers and the channels only through `a.rxbuf ++ ba` and `b.rxbuf ++ ab`, and the
positions of quiescent threads not at all.  `harm`, `hbt`: a thread with something to do is not left asleep. -/
theorem inv_stutter (hc : Common ctx done todo s) (hst : Stage ctx done todo s)
    {pa pb : TPc} {ta tb : Bool} {ra rb ab' ba' : Bytes}
    (hA : ra ++ ba' = s.a.rxbuf ++ s.ba) (hB : rb ++ ab' = s.b.rxbuf ++ s.ab)
    (hmoveA : pa = s.a.pc ∨ (Q s.a.pc ∧ Q pa)) (hmoveB : pb = s.b.pc ∨ (Q s.b.pc ∧ Q pb))
    (harm : s.a.sendQ ≠ [] → s.a.pc = .sendTop ∨ s.a.trig = true → pa = .sendTop ∨ ta = true)
    (hbt : pb = .idle → rb ≠ [] → tb = true) :
    Inv ctx { s with a := { s.a with pc := pa, trig := ta, rxbuf := ra }, b := { s.b with pc := pb, trig := tb, rxbuf := rb }, ab := ab', ba := ba' } := by
  refine ⟨done, todo, ⟨hc.split, hc.bq, hc.bapp, hc.flt, hbt⟩, ?_⟩
  have keepQ : ∀ {p p' : TPc}, p' = p ∨ (Q p ∧ Q p') → Q p → Q p' := by
    intro p p' hmove hq
    rcases hmove with rfl | ⟨_, hq'⟩
    · exact hq
    · exact hq'
  have keepBusy : ∀ {p p' pc : TPc}, p' = p ∨ (Q p ∧ Q p') → p = pc → ¬ Q pc → p' = pc := by
    intro p p' pc hmove hp hbusy
    rcases hmove with rfl | ⟨hq, _⟩
    · exact hp
    · exact absurd (hp ▸ hq) hbusy
  have nilOf : ∀ {x y x' y' : Bytes}, x' ++ y' = x ++ y → x = [] → y = [] → x' = [] ∧ y' = [] := by
    intro x y x' y' hsplit hx hy
    rw [hx, hy] at hsplit
    exact List.append_eq_nil_iff.mp hsplit
  cases hst with
  | s0 happ hq hpa hpb harx hba hbrx hab hdel hlog htx hnp =>
    exact .s0 happ hq (keepQ hmoveA hpa) (keepQ hmoveB hpb)
      (nilOf hA harx hba).1 (nilOf hA harx hba).2 (nilOf hB hbrx hab).1 (nilOf hB hbrx hab).2 hdel hlog htx hnp
  | s1 enc blk rest htodo happ hq hslot hpa hatrig hpb harx hba hbrx hab hdel hlog htx hnp =>
    have hqueued : s.a.sendQ ≠ [] := by rw [hq]; exact List.cons_ne_nil _ _
    exact .s1 enc blk rest htodo happ hq hslot (keepQ hmoveA hpa) (harm hqueued hatrig) (keepQ hmoveB hpb)
      (nilOf hA harx hba).1 (nilOf hA harx hba).2 (nilOf hB hbrx hab).1 (nilOf hB hbrx hab).2 hdel hlog htx hnp
  | s2 enc blk rest htodo happ hq hslot hpa hpb harx hba hpend hdel hlog htx hnp =>
    exact .s2 enc blk rest htodo happ hq hslot (keepBusy hmoveA hpa (by simp [Q])) (keepQ hmoveB hpb)
      (nilOf hA harx hba).1 (nilOf hA harx hba).2 (hB.trans hpend) hdel hlog htx hnp
  | s3 enc blk rest htodo happ hq hslot hpa hpb hpend hbrx hab hdel hlog htx hnp =>
    exact .s3 enc blk rest htodo happ hq hslot (keepBusy hmoveA hpa (by simp [Q])) (keepBusy hmoveB hpb (by simp [Q]))
      (hA.trans hpend) (nilOf hB hbrx hab).1 (nilOf hB hbrx hab).2 hdel hlog htx hnp
  | s4 enc blk rest htodo happ hq hslot hpa hpb harx hba hpend hdel hlog htx hnp =>
    exact .s4 enc blk rest htodo happ hq hslot (keepBusy hmoveA hpa (by simp [Q])) (keepBusy hmoveB hpb (by simp [Q]))
      (nilOf hA harx hba).1 (nilOf hA harx hba).2 (hB.trans hpend) hdel hlog htx hnp
  | s5 enc blk rest htodo happ hq hslot hpa hpb hpend hbrx hab hdel hlog htx hnp =>
    exact .s5 enc blk rest htodo happ hq hslot (keepBusy hmoveA hpa (by simp [Q])) (keepQ hmoveB hpb)
      (hA.trans hpend) (nilOf hB hbrx hab).1 (nilOf hB hbrx hab).2 hdel hlog htx hnp
  | s6 enc blk rest htodo happ hq hslot hpa hpb harx hba hbrx hab hdel hlog htx hnp =>
    exact .s6 enc blk rest htodo happ hq hslot (keepQ hmoveA hpa) (keepQ hmoveB hpb)
      (nilOf hA harx hba).1 (nilOf hA harx hba).2 (nilOf hB hbrx hab).1 (nilOf hB hbrx hab).2 hdel hlog htx hnp
  | finOk htodo happ hq hpa hpb harx hba hbrx hab hdel hlog hnp =>
    exact .finOk htodo happ hq (keepQ hmoveA hpa) (keepQ hmoveB hpb)
      (nilOf hA harx hba).1 (nilOf hA harx hba).2 (nilOf hB hbrx hab).1 (nilOf hB hbrx hab).2 hdel hlog hnp
  | finBad enc blk rest htodo hb happ hq hpa hpb harx hba hbrx hab hdel hlog =>
    exact .finBad enc blk rest htodo hb happ hq (keepQ hmoveA hpa) (keepQ hmoveB hpb)
      (nilOf hA harx hba).1 (nilOf hA harx hba).2 (nilOf hB hbrx hab).1 (nilOf hB hbrx hab).2 hdel hlog

theorem inv_quietA (hc : Common ctx done todo s) (hst : Stage ctx done todo s)
    (hq : Q s.a.pc) (hsq : s.a.pc = .sendTop → s.a.sendQ = []) (hrx : s.a.rxbuf = []) (h : thrStep s.a = some (e, tx)) :
    Inv ctx (emitA s e tx) := by
  obtain ⟨pc', tr', hq', rfl, rfl, htr, _⟩ := thr_quiet hq hsq (fun _ => hrx) h
  rw [emitA_nil]
  refine inv_stutter hc hst rfl rfl (Or.inr ⟨hq, hq'⟩) (Or.inl rfl) ?_ hc.btrig
  intro hne harmed
  rcases harmed with h | h
  · exact absurd (hsq h) hne
  · exact htr.imp_right (·.trans h)

theorem inv_quietB (hc : Common ctx done todo s) (hst : Stage ctx done todo s)
    (hq : Q s.b.pc) (hrx : s.b.pc = .recvLoop false → s.b.rxbuf = []) (h : thrStep s.b = some (e, tx)) :
    Inv ctx (emitB s e tx) := by
  obtain ⟨pc', tr', hq', rfl, rfl, _, hidle⟩ := thr_quiet hq (fun _ => hc.bq) hrx h
  rw [emitB_nil]
  exact inv_stutter hc hst rfl rfl (Or.inl rfl) (Or.inr ⟨hq, hq'⟩) (fun _ h => h) (fun hi hne => absurd (hrx (hidle hi)) hne)

theorem common_emitA (e : End) (tx : Bytes) (hc : Common ctx done todo s) :
    Common ctx done todo (emitA s e tx) := by
  unfold emitA; split <;> exact ⟨hc.split, hc.bq, hc.bapp, hc.flt, hc.btrig⟩

theorem step_thrA (hfr : ∀ p ∈ ctx.pairs, Framed p.1 p.2) (hc : Common ctx done todo s) (hst : Stage ctx done todo s)
    (h : thrStep s.a = some (e, tx)) :
    Inv ctx (emitA s e tx) := by
  have hst0 := hst
  cases hst with
  | s0 _ hq hpa _ harx | s6 _ _ _ _ _ hq _ hpa _ harx | finOk _ _ hq hpa _ harx | finBad _ _ _ _ _ _ hq hpa _ harx =>
    exact inv_quietA hc hst0 hpa (fun _ => hq) harx h
  | s2 _ _ _ _ _ _ _ hpa _ harx => rw [thrStep_blocked (.inl hpa) harx] at h; cases h
  | s4 _ _ _ _ _ _ _ hpa _ harx => rw [thrStep_blocked (.inr (.inl hpa)) harx] at h; cases h
  | s1 enc blk rest htodo happ hq hslot hpa hatrig hpb harx hba hbrx hab hdel hlog htx hnp =>
    by_cases htop : s.a.pc = .sendTop
    · rw [thrStep_sendTop_cons htop hq] at h; cases h
      refine ⟨done, todo, common_emitA _ _ hc, ?_⟩
      rw [emitA_cons]
      -- `simp only []` here and below: reduce the projections of the updated state, so that `rw` finds `s.b.rxbuf` etc.
      exact .s2 enc blk rest htodo happ hq hslot rfl hpb harx hba (by simp only []; rw [hbrx, hab, htx, hc.flt, tamper_even]; rfl) hdel
        (by simp only []; rw [hlog]; rfl) (by simp only []; rw [htx]) hnp
    · exact inv_quietA hc hst0 hpa (fun h => absurd h htop) harx h
  | s3 enc blk rest htodo happ hq hslot hpa hpb hpend hbrx hab hdel hlog htx hnp =>
    cases harx : s.a.rxbuf with
    | nil => rw [thrStep_blocked (.inl hpa) harx] at h; cases h
    | cons r rs =>
      rw [harx] at hpend
      obtain ⟨rfl, rfl, hba⟩ := cons_append_eq_singleton hpend
      -- a framed block is not empty: it is transmitted
      obtain ⟨l, r0, rfl, _, _⟩ := hfr (enc, blk) (by rw [hc.split, htodo]; simp)
      rw [thrStep_waitEnq_go hpa harx hq (fun hh => eot_ne_enq hh.1)] at h; cases h
      refine ⟨done, todo, common_emitA _ _ hc, ?_⟩
      rw [emitA_cons]
      exact .s4 (l :: r0) blk rest htodo happ rfl hslot rfl hpb rfl hba (by simp only []; rw [hbrx, hab, htx, hc.flt, tamper_odd]; rfl) hdel
        (by simp only []; rw [hlog]; simp [cycle]) (by simp only []; rw [htx]) hnp
  | s5 enc blk rest htodo happ hq hslot hpa hpb hpend hbrx hab hdel hlog htx hnp =>
    cases harx : s.a.rxbuf with
    | nil => rw [thrStep_blocked (.inr (.inl hpa)) harx] at h; cases h
    | cons r rs =>
      rw [harx] at hpend
      obtain ⟨rfl, rfl, hba⟩ := cons_append_eq_singleton hpend
      rw [thrStep_waitAck_cons hpa harx, answer_ack] at h; cases h
      refine ⟨done, todo, common_emitA _ _ hc, ?_⟩
      rw [emitA_nil]
      exact .s6 enc blk rest htodo happ hq rfl (Or.inr (Or.inl rfl)) hpb rfl hba hbrx hab hdel hlog htx hnp

theorem step_thrB (hfr : ∀ p ∈ ctx.pairs, Framed p.1 p.2) (hbad : BadOK ctx)
    (hc : Common ctx done todo s) (hst : Stage ctx done todo s) (h : thrStep s.b = some (e, tx)) :
    Inv ctx (emitB s e tx) := by
  have hst0 := hst
  cases hst with
  | s0 _ _ _ hpb _ _ hbrx | s1 _ _ _ _ _ _ _ _ _ hpb _ _ hbrx | s5 _ _ _ _ _ _ _ _ hpb _ hbrx
  | s6 _ _ _ _ _ _ _ _ hpb _ _ hbrx | finOk _ _ _ _ hpb _ _ hbrx | finBad _ _ _ _ _ _ _ _ hpb _ _ hbrx =>
    exact inv_quietB hc hst0 hpb (fun _ => hbrx) h
  | s3 _ _ _ _ _ _ _ _ hpb _ hbrx => rw [thrStep_blocked (.inr (.inr ⟨_, hpb⟩)) hbrx] at h; cases h
  | s2 enc blk rest htodo happ hq hslot hpa hpb harx hba hpend hdel hlog htx hnp =>
    by_cases hrl : s.b.pc = .recvLoop false ∧ s.b.rxbuf ≠ []
    · obtain ⟨x, xs, hbrx⟩ := List.exists_cons_of_ne_nil hrl.2
      rw [hbrx] at hpend
      obtain ⟨rfl, rfl, hab⟩ := cons_append_eq_singleton hpend
      rw [thrStep_recvLoop_cons hrl.1 hbrx] at h; cases h
      refine ⟨done, todo, ⟨hc.split, hc.bq, hc.bapp, hc.flt, fun hh => nomatch hh⟩, ?_⟩
      rw [emitB_cons]
      exact .s3 enc blk rest htodo happ hq hslot hpa rfl (by simp only []; rw [harx, hba]; rfl) rfl hab hdel
        (by simp only []; rw [hlog]; simp [cycle]) htx hnp
    · exact inv_quietB hc hst0 hpb (fun hp => Decidable.byContradiction fun hne => hrl ⟨hp, hne⟩) h
  | s4 enc blk rest htodo happ hq hslot hpa hpb harx hba hpend hdel hlog htx hnp =>
    obtain ⟨l, r, hw, hlen, hdec⟩ := wire_framed hbad (by rw [hc.split, htodo]) (hfr (enc, blk) (by rw [hc.split, htodo]; simp))
    rw [hw] at hpend hdec
    cases hbrx : s.b.rxbuf with
    | nil => rw [thrStep_blocked (.inr (.inr ⟨_, hpb⟩)) hbrx] at h; cases h
    | cons x xs =>
      rw [hbrx, List.cons_append, List.cons.injEq] at hpend
      obtain ⟨rfl, hxs⟩ := hpend
      by_cases hshort : xs.length < x + 2
      · rw [thrStep_waitBlk_short hpb hbrx hshort] at h; cases h
      · have hab : s.ab = [] := by
          have := congrArg List.length hxs
          rw [List.length_append, hlen] at this
          exact List.eq_nil_of_length_eq_zero (by omega)
        rw [hab, List.append_nil] at hxs
        subst hxs
        -- ACK and delivery, or NAK: stage s5 either way
        have key : ∀ (bad : Bool) (pc' : TPc) (dl : List Block), ctx.isBad done.length = bad → Q pc' →
            dl = s.b.delivered ++ (if bad then [] else [blk]) →
            Inv ctx (emitB s { s.b with rxbuf := [], delivered := dl, pc := pc' } [answer (!bad)]) := by
          intro bad pc' dl hib hq' hdl
          refine ⟨done, todo, ⟨hc.split, hc.bq, hc.bapp, hc.flt, fun _ hh => absurd rfl hh⟩, ?_⟩
          rw [emitB_cons]
          exact .s5 enc blk rest htodo happ hq hslot hpa hq' (by simp only []; rw [harx, hba, hib]; rfl) rfl hab
            (by simp only []; rw [hdl, hdel, hib]) (by simp only []; rw [hlog, hib, List.append_assoc]; rfl) htx hnp
        cases hib : ctx.isBad done.length <;> rw [hib] at hdec
        · rw [thrStep_waitBlk_frame hpb hbrx hlen (o := some blk) hdec] at h; cases h
          exact key false _ _ hib (Or.inr (Or.inr rfl)) rfl
        · rw [thrStep_waitBlk_frame hpb hbrx hlen (o := none) hdec] at h; cases h
          exact key true _ _ hib (Or.inl rfl) (List.append_nil _).symm

theorem step_appA (hc : Common ctx done todo s) (hst : Stage ctx done todo s) (h : appStep s.a = some e) :
    Inv ctx { s with a := e } := by
  have hca : ∀ {done todo} (e : End), ctx.pairs = done ++ todo → Common ctx done todo { s with a := e } :=
    fun _ hs => ⟨hs, hc.bq, hc.bapp, hc.flt, hc.btrig⟩
  cases hst with
  | s1 _ _ _ _ happ _ hslot | s2 _ _ _ _ happ _ hslot | s3 _ _ _ _ happ _ hslot | s4 _ _ _ _ happ _ hslot | s5 _ _ _ _ happ _ hslot =>
    rw [appStep_waiting happ hslot] at h; cases h
  | finOk _ happ | finBad _ _ _ _ _ happ => rw [appStep_fin happ] at h; cases h
  | s0 happ hq hpa hpb harx hba hbrx hab hdel hlog htx hnp =>
    cases todo with
    | nil =>
      rw [appStep_done happ] at h; cases h
      exact ⟨done, [], hca _ hc.split, .finOk rfl rfl hq hpa hpb harx hba hbrx hab hdel hlog hnp⟩
    | cons p rest =>
      rw [appStep_queue happ] at h; cases h
      exact ⟨done, p :: rest, hca _ hc.split,
        .s1 p.1 p.2 rest rfl rfl (by simp only []; rw [hq]; rfl) rfl hpa (Or.inr rfl) hpb harx hba hbrx hab hdel hlog htx hnp⟩
  | s6 enc blk rest htodo happ hq hslot hpa hpb harx hba hbrx hab hdel hlog htx hnp =>
    subst htodo
    cases hib : ctx.isBad done.length <;> rw [hib] at hslot hdel hlog <;> rw [appStep_resolved happ hslot] at h <;> cases h
    · exact ⟨done ++ [(enc, blk)], rest, hca _ (hc.split.trans (List.append_cons ..)),
        .s0 rfl hq hpa hpb harx hba hbrx hab (by simp only []; rw [hdel, List.map_append]; rfl)
          (by simp only []; rw [hlog, List.map_append]; exact (transcript_append _ enc).symm)
          (by simp only []; rw [htx, List.length_append]; rfl) (by rw [List.length_append]; exact hnp.succ hib)⟩
    · exact ⟨done, (enc, blk) :: rest, hca _ hc.split,
        .finBad enc blk rest rfl hib rfl hq hpa hpb harx hba hbrx hab (by simp only []; rw [hdel]; exact List.append_nil _) hlog⟩

theorem inv_step (ctx : Ctx) (hfr : ∀ p ∈ ctx.pairs, Framed p.1 p.2) (hbad : BadOK ctx) (s : State) (l : Label) (s' : State)
    (hinv : Inv ctx s) (hs : step s l = some s') : Inv ctx s' := by
  obtain ⟨done, todo, hc, hst⟩ := hinv
  have hsplit : ∀ (r ch : Bytes) (n : Nat), (r ++ ch.take n) ++ ch.drop n = r ++ ch := fun r ch n => by
    rw [List.append_assoc, List.take_append_drop]
  exact step_cases hs (fun _ _ => step_thrA hfr hc hst) (fun _ _ => step_thrB hfr hbad hc hst) (fun _ => step_appA hc hst)
    (fun _ h => by rw [appStep_none hc.bapp] at h; cases h)
    (fun _ _ _ => inv_stutter hc hst (hsplit ..) rfl (Or.inl rfl) (Or.inl rfl) (fun _ _ => Or.inr rfl) hc.btrig)
    (fun _ _ _ => inv_stutter hc hst rfl (hsplit ..) (Or.inl rfl) (Or.inl rfl) (fun _ h => h) (fun _ _ => rfl))

end steps

end SecsModel.Proofs.SecsILine
