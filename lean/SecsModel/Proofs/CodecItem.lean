import SecsModel.Proofs.CodecRound
import SecsModel.Model.Item
/-! The Item API against the variables API and Spec.E5: the two encoders agree on every value (`apis_agree`), `Item.decode` reads what the reference
decoder reads (a recursion over `Wire`), `from_value` picks the narrowest integer class, and a constructed item holds what its input denotes (`denote`). -/
namespace SecsModel.Proofs.CodecItem
open SecsModel SecsModel.Spec.E5 SecsModel.Model.Var SecsModel.Proofs.CodecElem SecsModel.Proofs.CodecSpec SecsModel.Proofs.CodecHeader
  SecsModel.Proofs.CodecVar SecsModel.Proofs.CodecVarDec SecsModel.Proofs.CodecRound

/-- what E5 fixes of an Item class: mnemonic, format code, and for the numeric classes width and range -/
def itemProj (r : Gen.ItemTypes.Row) : String × Nat × Nat × Int × Int :=
  if r.base == "ItemNumber" then (r.sml_type, r.hsms_type.toNat, r.bytes.toNat, r.min, r.max) else (r.sml_type, r.hsms_type.toNat, 0, 0, 0)

/-- narrowest unsigned / signed E5 integer format that holds `n` -/
def uintFor (n : Int) : Ty := if n ≤ 255 then .u1 else if n ≤ 65535 then .u2 else if n ≤ 4294967295 then .u4 else .u8
def sintFor (n : Int) : Ty := if -128 ≤ n then .i1 else if -32768 ≤ n then .i2 else if -2147483648 ≤ n then .i4 else .i8

/-- the elements a plain Python scalar stands for in an item of type `t` (no range or type checks: the meaning of the input) -/
def denoteScalar (t : Ty) : PyVal → Option (List Int)
  | .int n => some [n]
  | .bool b => some [if b then 1 else 0]
  | .float x => some [(x : Int)]
  | .bytes bs =>
    match t.kind with
    | .jis => some (bs.map (fun (b : Nat) => ((jisChar b : Nat) : Int)))
    | _ => some (bs.map (fun (b : Nat) => (b : Int)))
  | .str cps =>
    match t.kind with
    | .byte => (match Model.Item.utf8 cps with | .ok bs => some (bs.map (fun (b : Nat) => (b : Int))) | .error _ => none)
    | _ => some (cps.map (fun (c : Nat) => (c : Int)))
  | _ => none

def denoteList (t : Ty) : List PyVal → Option (List Int)
  | [] => some []
  | p :: ps =>
    match denoteScalar t p, denoteList t ps with
    | some a, some b => some (a ++ b)
    | _, _ => none

/-- a list input is the concatenation of what its members stand for -/
def denote (t : Ty) : PyVal → Option (List Int)
  | .list ps => denoteList t ps
  | p => denoteScalar t p

theorem item_code (t : Ty) : (Model.Item.rowOf t).hsms_type = (t.code : Int) := by cases t <;> rfl
theorem item_list_code : Gen.ItemTypes.ItemL.hsms_type = ((0 : Nat) : Int) := rfl
theorem item_bytes (t : Ty) : (Model.Item.rowOf t).bytes = (Model.Var.rowOf t).bytes := by cases t <;> rfl
theorem item_struct (t : Ty) : (Model.Item.rowOf t).struct_code = (Model.Var.rowOf t).struct_code := by cases t <;> rfl
theorem item_coding (t : Ty) : codingOf (Model.Item.rowOf t).encoding = codingOf (Model.Var.rowOf t).coding := by cases t <;> decide
theorem item_float (t : Ty) : (Model.Item.rowOf t).is_float = (Model.Var.rowOf t).is_float := by cases t <;> rfl
theorem item_bounds (t : Ty) (h : Numeric t) :
    (Model.Item.rowOf t).min = (Model.Var.rowOf t).min ∧ (Model.Item.rowOf t).max = (Model.Var.rowOf t).max := by
  rcases h.eq_one with rfl | rfl | rfl | rfl | rfl | rfl | rfl | rfl | rfl | rfl <;> exact ⟨rfl, rfl⟩

theorem hdr_eq (code : Nat) (hc : code < 64) (l : Int) : Gen.ItemHeaderItem.encode (code : Int) l = Gen.ItemHeaderVar.encode (code : Int) l := by
  by_cases h : l < 0
  · rw [item_header_neg _ l h, var_header_neg _ l h]
  · obtain ⟨n, rfl⟩ := Int.eq_ofNat_of_zero_le (by omega : 0 ≤ l)
    rw [item_header_exact code n hc, var_header_exact code n hc]

theorem encodeLeaf_agree (t : Ty) (es : List Int) : Model.Item.encodeLeaf t es = Model.Var.encodeLeaf t es := by
  simp only [Model.Item.encodeLeaf, Model.Var.encodeLeaf, item_code, row_code, hdr_eq t.code (code_lt t).1, item_bytes, item_struct, item_coding]
  generalize t.kind = k
  cases k <;> rfl

mutual
theorem apis_agree (v : Val) : Model.Item.encode v = Model.Var.encode v := by
  match v with
  | .item t es => simp only [Model.Item.encode, Model.Var.encode, encodeLeaf_agree]
  | .list xs =>
    simp only [Model.Item.encode, Model.Var.encode, item_list_code, row_list_code.1, hdr_eq 0 (by omega), encodeList_agree xs]
    rfl
theorem encodeList_agree (xs : List Val) : Model.Item.encodeList xs = Model.Var.encodeList xs := by
  match xs with
  | [] => rfl
  | x :: xs => simp only [Model.Item.encodeList, Model.Var.encodeList, apis_agree x, encodeList_agree xs]; rfl
end

theorem item_encode_exact (v : Val) (ha : Accepted v) : Model.Item.encode v = Spec.E5.encode v := by
  rw [apis_agree, encode_exact v ha]

theorem byHsms_leaf (t : Ty) : Model.Item.byHsms t.code = some (.leaf t) :=
  (by decide +kernel : ∀ t ∈ Ty.all, Model.Item.byHsms t.code = some (.leaf t)) t t.mem_all
theorem byHsms_list : Model.Item.byHsms 0 = some .l := by decide

theorem item_decHeader_hdr {fb : Nat} {lb : Bytes} {code len : Nat} (hd : Hdr fb lb code len) (rest : Bytes) :
    Model.Item.decHeader (fb :: (lb ++ rest)) = .ok (code, len, rest) := by
  have c1 : ¬ ((lb ++ rest).length < fb % 4) := by rw [List.length_append, hd.count]; omega
  have e1 : (lb ++ rest).take (fb % 4) = lb := by rw [← hd.count]; exact List.take_left' rfl
  have e2 : (lb ++ rest).drop (fb % 4) = rest := by rw [← hd.count]; exact List.drop_left' rfl
  simp only [Model.Item.decHeader]
  rw [if_neg c1, e1, e2, hd.code, hd.len]

/-- the element loop of `ItemNumber.decode` is that of `BaseNumber.decode`, handing back the rest as well -/
theorem readNums_eq (c : String) (w : Nat) : ∀ (n : Nat) (bs : Bytes),
    Model.Item.readNums c w n bs = (match Model.Var.readNums c w n bs with | .error e => .error e | .ok vs => .ok (vs, bs.drop (n * w)))
  | 0, bs => by simp [Model.Item.readNums, Model.Var.readNums]
  | n+1, bs => by
    simp only [Model.Item.readNums, Model.Var.readNums, readNums_eq c w n]
    split
    · rfl
    · cases unpack c (bs.take w) with
      | error e => rfl
      | ok v =>
        cases Model.Var.readNums c w n (bs.drop w) with
        | error e => rfl
        | ok vs => simp only [List.drop_drop, Nat.succ_mul, Nat.add_comm]

theorem verifyAll_ok (r : Model.Item.Row) : ∀ (es : List Int), (∀ e ∈ es, Model.Item.inBounds r e = true) → Model.Item.verifyAll r es = .ok es
  | [], _ => rfl
  | e :: es, h => by
    have h1 := h e (by simp)
    have ih := verifyAll_ok r es (fun x hx => h x (by simp [hx]))
    simp only [Model.Item.verifyAll, h1, Bool.not_true, Bool.false_eq_true, if_false, ih]

theorem inBounds_int {t : Ty} (h : IsInt t) (e : Int) :
    Model.Item.inBounds (Model.Item.rowOf t) e = true ↔ t.lo ≤ e ∧ e ≤ t.hi := by
  have : Model.Item.inBounds (Model.Item.rowOf t) e = (decide (t.lo ≤ e) && decide (e ≤ t.hi)) := by
    rcases h with hk | hk
    · rcases Ty.int_cases.2 hk with rfl | rfl | rfl | rfl <;> rfl
    · rcases Ty.int_cases.1 hk with rfl | rfl | rfl | rfl <;> rfl
  rw [this, Bool.and_eq_true, decide_eq_true_eq, decide_eq_true_eq]

/-- the bounds test of a float class refuses NaN (unlike the variables API) and everything beyond the largest finite value -/
theorem inBounds_float {t : Ty} (ht : IsFloat t) (e : Int) :
    Model.Item.inBounds (Model.Item.rowOf t) e = true ↔ (IEEE.isNaN64 e.toNat = false ∧ e.toNat % 2^63 ≤ t.hi.toNat) := by
  have hf := (float_range t ht.kind).1
  obtain ⟨hmin, hmax, hlt⟩ := float_row ht
  obtain ⟨bmin, bmax⟩ := item_bounds t ht.numeric
  simp only [Model.Item.inBounds, item_float, hf, if_true, bmin, bmax, hmin, hmax]
  cases hn : IEEE.isNaN64 e.toNat with
  | false => simp only [IEEE.bounds_check _ _ hlt hn, true_and]
  | true => simp [IEEE.fle, hn]

theorem acc_inBounds {t : Ty} (h : Numeric t) {e : Int}
    (ha : accElem t e = true) (hn : nanElem t e = false) : Model.Item.inBounds (Model.Item.rowOf t) e = true := by
  rcases h.cases with hi | hf
  · exact (inBounds_int hi e).mpr ((acc_int hi e).mp ha)
  · exact (inBounds_float hf e).mpr ⟨by rcases hf with rfl | rfl <;> exact hn, acc_float_le hf ha hn⟩

theorem item_decLeaf_wire {fb : Nat} {lb p : Bytes} {t : Ty} (hd : Hdr fb lb t.code p.length) (hm : p.length % t.width = 0) (hab : AllBytes p)
    (hfin : ∀ e ∈ decElems t p, finElem t e = true) (r : Bytes) :
    Model.Item.decLeaf t (fb :: (lb ++ (p ++ r))) = .ok (.item t (decElems t p), r) := by
  have hacc := decElems_acc t p hm hab hfin
  simp only [Model.Item.decLeaf, item_decHeader_hdr hd, List.take_left', List.drop_left']
  induction t using Ty.kind_cases with
  | b => simp only [Ty.kind, decElems_byte (.inl rfl)]
  | bool =>
    simp only [Ty.kind, decElems_bool]
    -- `ItemBOOLEAN` tests `0 < b`, `decElems_bool` has `b = 0`: the same function on `Nat`
    congr 3; apply List.map_congr_left; intro b _; cases b <;> simp
  | a | j => simp only [Ty.kind, item_coding]; rw [decodeText_decElems (by decide) p hab]
  | num t hk =>
    have hnw : p.length / t.width * t.width = p.length := Nat.div_mul_cancel (Nat.dvd_of_mod_eq_zero hm)
    have c1 : ¬ ((t.width : Int) ≤ 0) := by have := width_pos t; omega
    have hall : ∀ e ∈ decElems t p, Model.Item.inBounds (Model.Item.rowOf t) e = true :=
      fun e he => acc_inBounds hk (hacc e he).1 (fin_not_nan t e (hfin e he))
    have hb := row_bytes t hk
    have hrd := readNums_decElems t hk p r hm
    rcases hk with h | h | h | h <;>
      simp only [h, item_bytes, hb, c1, if_false, Int.toNat_natCast, item_struct, readNums_eq, hrd, verifyAll_ok _ _ hall, hnw,
        List.drop_left']

mutual
theorem wire_decode {p : Bytes} {v : Val} : Wire p v → v.Finite → ∀ (r : Bytes) (g : Nat), v.size ≤ g →
    Model.Item.decode g (p ++ r) = .ok (v, r)
  | .item hd hm hp rfl, hfin, r, g, hg => by
    obtain ⟨g', rfl⟩ : ∃ g', g = g' + 1 := ⟨g - 1, by simp only [Val.size] at hg; omega⟩
    rw [List.cons_append, List.append_assoc]
    simp only [Model.Item.decode, hd.code, byHsms_leaf]
    exact item_decLeaf_wire hd hm hp hfin r
  | .list hd hl, hfin, r, g, hg => by
    simp only [Val.size] at hg
    obtain ⟨g', rfl⟩ : ∃ g', g = g' + 1 := ⟨g - 1, by omega⟩
    rw [List.cons_append, List.append_assoc]
    simp only [Model.Item.decode, hd.code, byHsms_list, item_decHeader_hdr hd, wireList_decodeItems hl hfin r g' (by omega)]
theorem wireList_decodeItems {ps : Bytes} {xs : List Val} : WireList ps xs → FiniteList xs →
    ∀ (r : Bytes) (g : Nat), sizeList xs ≤ g → Model.Item.decodeItems g xs.length (ps ++ r) = .ok (xs, r)
  | .nil, _, _, g, _ => by cases g <;> rfl
  | .cons h hs, hfin, r, g, hg => by
    simp only [sizeList] at hg
    obtain ⟨g', rfl⟩ : ∃ g', g = g' + 1 := ⟨g - 1, by omega⟩
    simp only [List.length_cons, Model.Item.decodeItems, List.append_assoc, wire_decode h hfin.1 _ g' (by omega),
      wireList_decodeItems hs hfin.2 r g' (by omega)]
end

theorem item_decode_complete (bs : Bytes) (v : Val) (rest : Bytes) (h : decodeAny bs = some (v, rest)) (hab : AllBytes bs) (hfin : v.Finite) :
    Model.Item.decodeBytes bs = .ok (v, rest) := by
  obtain ⟨p, rfl, hw⟩ := decItem_wire _ h hab
  have := hw.size_lt
  exact wire_decode hw hfin rest _ (by rw [List.length_append]; omega)

section
open SecsModel.Model.Item

theorem bySml_uint : bySml "U1" = some (.leaf .u1) ∧ bySml "U2" = some (.leaf .u2) ∧ bySml "U4" = some (.leaf .u4) ∧ bySml "U8" = some (.leaf .u8) := by
  decide +kernel

theorem bySml_sint : bySml "I1" = some (.leaf .i1) ∧ bySml "I2" = some (.leaf .i2) ∧ bySml "I4" = some (.leaf .i4) ∧ bySml "I8" = some (.leaf .i8) := by
  decide +kernel

theorem bySml_other : bySml "A" = some (.leaf .a) ∧ bySml "B" = some (.leaf .b) ∧ bySml "BOOLEAN" = some (.leaf .bool) ∧ bySml "L" = some .l
    ∧ bySml "F4" = some (.leaf .f4) ∧ bySml "F8" = some (.leaf .f8) := by decide +kernel

theorem uintFor_cases (n : Int) : (n ≤ 255 ∧ uintFor n = .u1) ∨ (255 < n ∧ n ≤ 65535 ∧ uintFor n = .u2)
    ∨ (65535 < n ∧ n ≤ 4294967295 ∧ uintFor n = .u4) ∨ (4294967295 < n ∧ uintFor n = .u8) := by
  simp only [uintFor]
  split
  · exact .inl ⟨‹_›, rfl⟩
  · split
    · exact .inr (.inl ⟨by omega, ‹_›, rfl⟩)
    · split
      · exact .inr (.inr (.inl ⟨by omega, ‹_›, rfl⟩))
      · exact .inr (.inr (.inr ⟨by omega, rfl⟩))

theorem sintFor_cases (n : Int) : (-128 ≤ n ∧ sintFor n = .i1) ∨ (n < -128 ∧ -32768 ≤ n ∧ sintFor n = .i2)
    ∨ (n < -32768 ∧ -2147483648 ≤ n ∧ sintFor n = .i4) ∨ (n < -2147483648 ∧ sintFor n = .i8) := by
  simp only [sintFor]
  split
  · exact .inl ⟨‹_›, rfl⟩
  · split
    · exact .inr (.inl ⟨by omega, ‹_›, rfl⟩)
    · split
      · exact .inr (.inr (.inl ⟨by omega, ‹_›, rfl⟩))
      · exact .inr (.inr (.inr ⟨by omega, rfl⟩))

theorem uintFor_kind (n : Int) : (uintFor n).kind = .uint := by
  rcases uintFor_cases n with ⟨_, e⟩ | ⟨_, _, e⟩ | ⟨_, _, e⟩ | ⟨_, e⟩ <;> rw [e] <;> rfl

theorem sintFor_kind (n : Int) : (sintFor n).kind = .sint := by
  rcases sintFor_cases n with ⟨_, e⟩ | ⟨_, _, e⟩ | ⟨_, _, e⟩ | ⟨_, e⟩ <;> rw [e] <;> rfl

theorem uintFor_range (n : Int) (h0 : 0 ≤ n) (h1 : n < 18446744073709551616) : (uintFor n).lo ≤ n ∧ n ≤ (uintFor n).hi := by
  rcases uintFor_cases n with ⟨_, e⟩ | ⟨_, _, e⟩ | ⟨_, _, e⟩ | ⟨_, e⟩ <;> rw [e] <;> simp only [Ty.lo, Ty.hi] <;> omega

theorem sintFor_range (n : Int) (h0 : n < 0) (h1 : -9223372036854775808 ≤ n) : (sintFor n).lo ≤ n ∧ n ≤ (sintFor n).hi := by
  rcases sintFor_cases n with ⟨_, e⟩ | ⟨_, _, e⟩ | ⟨_, _, e⟩ | ⟨_, e⟩ <;> rw [e] <;> simp only [Ty.lo, Ty.hi] <;> omega

theorem uintFor_narrowest (n : Int) (t : Ty) (hk : t.kind = .uint) (hw : t.width < (uintFor n).width) : t.hi < n := by
  rcases uintFor_cases n with ⟨_, e⟩ | ⟨_, _, e⟩ | ⟨_, _, e⟩ | ⟨_, e⟩ <;> rw [e] at hw <;>
    rcases Ty.int_cases.1 hk with rfl | rfl | rfl | rfl <;> simp only [Ty.width, Ty.hi] at hw ⊢ <;> omega

theorem sintFor_narrowest (n : Int) (t : Ty) (hk : t.kind = .sint) (hw : t.width < (sintFor n).width) : n < t.lo := by
  rcases sintFor_cases n with ⟨_, e⟩ | ⟨_, _, e⟩ | ⟨_, _, e⟩ | ⟨_, e⟩ <;> rw [e] at hw <;>
    rcases Ty.int_cases.2 hk with rfl | rfl | rfl | rfl <;> simp only [Ty.width, Ty.lo] at hw ⊢ <;> omega

theorem pickType_cons (nm : String) (rest : List String) (fb : String) (e : Int) (t : Ty) (h : bySml nm = some (.leaf t)) :
    pickType (nm :: rest) fb e = if inBounds (Model.Item.rowOf t) e then some (.leaf t) else pickType rest fb e := by
  simp only [pickType, List.find?, h, tagRow]
  cases inBounds (Model.Item.rowOf t) e
  · rfl
  · simp only [h, if_true]

theorem pickType_uint (n : Int) (h0 : 0 ≤ n) (h1 : n < 18446744073709551616) :
    pickType Gen.ItemTypes.fromValueUnsigned Gen.ItemTypes.fromValueIntFallback n = some (.leaf (uintFor n)) := by
  obtain ⟨b1, b2, b3, b4⟩ := bySml_uint
  simp only [Gen.ItemTypes.fromValueUnsigned, pickType_cons _ _ _ _ _ b1, pickType_cons _ _ _ _ _ b2, pickType_cons _ _ _ _ _ b3,
    pickType_cons _ _ _ _ _ b4, inBounds_int (t := .u1) (.inr rfl), inBounds_int (t := .u2) (.inr rfl), inBounds_int (t := .u4) (.inr rfl),
    inBounds_int (t := .u8) (.inr rfl), Ty.lo, Ty.hi, h0, true_and]
  rcases uintFor_cases n with ⟨c, e⟩ | ⟨c1, c, e⟩ | ⟨c1, c, e⟩ | ⟨c1, e⟩ <;> rw [e]
  · rw [if_pos c]
  · rw [if_neg (by omega), if_pos c]
  · rw [if_neg (by omega), if_neg (by omega), if_pos c]
  · rw [if_neg (by omega), if_neg (by omega), if_neg (by omega), if_pos (by omega)]

theorem pickType_sint (n : Int) (h0 : n < 0) (h1 : -9223372036854775808 ≤ n) :
    pickType Gen.ItemTypes.fromValueSigned Gen.ItemTypes.fromValueIntFallback n = some (.leaf (sintFor n)) := by
  obtain ⟨b1, b2, b3, b4⟩ := bySml_sint
  simp only [Gen.ItemTypes.fromValueSigned, pickType_cons _ _ _ _ _ b1, pickType_cons _ _ _ _ _ b2, pickType_cons _ _ _ _ _ b3,
    pickType_cons _ _ _ _ _ b4, inBounds_int (t := .i1) (.inl rfl), inBounds_int (t := .i2) (.inl rfl), inBounds_int (t := .i4) (.inl rfl),
    inBounds_int (t := .i8) (.inl rfl), Ty.lo, Ty.hi]
  rcases sintFor_cases n with ⟨c, e⟩ | ⟨c1, c, e⟩ | ⟨c1, c, e⟩ | ⟨c1, e⟩ <;> rw [e]
  · rw [if_pos (by omega)]
  · rw [if_neg (by omega), if_pos (by omega)]
  · rw [if_neg (by omega), if_neg (by omega), if_pos (by omega)]
  · rw [if_neg (by omega), if_neg (by omega), if_neg (by omega), if_pos (by omega)]

theorem from_value_int (n : Int) (t : Ty) (hk : IsInt t)
    (hp : pickType (if n ≥ 0 then Gen.ItemTypes.fromValueUnsigned else Gen.ItemTypes.fromValueSigned) Gen.ItemTypes.fromValueIntFallback n
      = some (.leaf t))
    (hb : t.lo ≤ n ∧ n ≤ t.hi) : fromValue (.int n) = .ok (.item t [n]) := by
  have hf : (Model.Item.rowOf t).is_float = false := by rw [item_float]; exact (num_range t hk).1
  have hi := (inBounds_int hk n).mpr hb
  have hv : validateLeaf t (.int n) = .ok [n] := by
    rcases hk with h | h <;> simp [validateLeaf, h, numElem, hf, hi]
  unfold fromValue
  simp [Gen.ItemTypes.fromValueChain, isInstance, hp, hv]

theorem from_value_uint (n : Int) (h0 : 0 ≤ n) (h1 : n < 18446744073709551616) :
    fromValue (.int n) = .ok (.item (uintFor n) [n]) := by
  apply from_value_int n _ (.inr (uintFor_kind n)) _ (uintFor_range n h0 h1)
  rw [if_pos (show n ≥ 0 from h0)]
  exact pickType_uint n h0 h1

theorem from_value_sint (n : Int) (h0 : n < 0) (h1 : -9223372036854775808 ≤ n) :
    fromValue (.int n) = .ok (.item (sintFor n) [n]) := by
  apply from_value_int n _ (.inl (sintFor_kind n)) _ (sintFor_range n h0 h1)
  rw [if_neg (show ¬ n ≥ 0 by omega)]
  exact pickType_sint n h0 h1

theorem from_value_other :
    (∀ b : Bool, fromValue (.bool b) = .ok (.item .bool [if b then 1 else 0]))
    ∧ (∀ cps : List Nat, fromValue (.str cps) = .ok (.item .a (cps.map (fun (c : Nat) => (c : Int)))))
    ∧ (∀ bs : Bytes, fromValue (.bytes bs) = .ok (.item .b (bs.map (fun (b : Nat) => (b : Int)))))
    ∧ (∀ ps : List PyVal, fromValue (.list ps) = match fromValues ps with | .error e => .error e | .ok vs => .ok (.list vs))
    ∧ (∀ v : Val, fromValue (.obj v) = .ok v) := by
  obtain ⟨ba, bb, bbool, _, _, _⟩ := bySml_other
  refine ⟨?_, ?_, ?_, ?_, ?_⟩
  · intro b
    unfold fromValue
    cases b <;>
      simp [Gen.ItemTypes.fromValueChain, isInstance, bbool, validateLeaf, boolElem, inBounds, Model.Item.rowOf, Gen.ItemTypes.ItemBOOLEAN, Ty.kind] <;>
      decide
  · intro cps
    unfold fromValue
    simp [Gen.ItemTypes.fromValueChain, isInstance, ba, validateLeaf, Ty.kind]
  · intro bs
    unfold fromValue
    simp [Gen.ItemTypes.fromValueChain, isInstance, bb, validateLeaf, binElem, Ty.kind]
  · intro ps
    unfold fromValue
    simp [Gen.ItemTypes.fromValueChain]
    cases fromValues ps <;> rfl
  · intro v
    unfold fromValue
    simp [Gen.ItemTypes.fromValueChain]

theorem denote_of_not_list (t : Ty) {p : PyVal} (h : ∀ xs, p = .list xs → False) : denote t p = denoteScalar t p := by
  cases p <;> first | rfl | exact (h _ rfl).elim

theorem numElem_denote (t : Ty) (p : PyVal) (v : Int)
    (hv : numElem (Model.Item.rowOf t) p = .ok v) : denoteScalar t p = some [v] := by
  cases hf : (Model.Item.rowOf t).is_float
  · match p with
    | .int n =>
      simp only [numElem, hf, Bool.false_eq_true, if_false] at hv
      split at hv
      · injection hv with hv; subst hv; rfl
      · cases hv
    | .bool b =>
      cases b <;> simp only [numElem, hf, Bool.false_eq_true, if_false, if_true] at hv <;>
        (split at hv
         · injection hv with hv; subst hv; rfl
         · cases hv)
    | .none | .float _ | .str _ | .bytes _ | .bytearray _ | .list _ | .tuple _ | .obj _ => simp [numElem, hf] at hv
  · match p with
    | .float x =>
      simp only [numElem, hf, if_true] at hv
      split at hv
      · injection hv with hv; subst hv; rfl
      · cases hv
    | .none | .int _ | .bool _ | .str _ | .bytes _ | .bytearray _ | .list _ | .tuple _ | .obj _ => simp [numElem, hf] at hv

theorem numElems_denote (t : Ty) :
    ∀ (ps : List PyVal) (vs : List Int), numElems (Model.Item.rowOf t) ps = .ok vs → denoteList t ps = some vs
  | [], vs, hv => by simp only [numElems] at hv; injection hv with hv; subst hv; rfl
  | p :: ps, vs, hv => by
    simp only [numElems] at hv
    split at hv
    · cases hv
    · rename_i v h1
      split at hv
      · cases hv
      · rename_i ws h2
        injection hv with hv; subst hv
        simp only [denoteList, numElem_denote t p v h1, numElems_denote t ps ws h2, List.singleton_append]

/- `B` and `BOOLEAN` are not number classes, but carry a range. -/
theorem bool_bounds (e : Int) : inBounds (Model.Item.rowOf .bool) e = true ↔ (0 ≤ e ∧ e ≤ 1) := by
  have : inBounds (Model.Item.rowOf .bool) e = (decide (0 ≤ e) && decide (e ≤ 1)) := rfl
  rw [this, Bool.and_eq_true, decide_eq_true_eq, decide_eq_true_eq]

theorem bin_bounds (e : Int) : inBounds (Model.Item.rowOf .b) e = true ↔ (0 ≤ e ∧ e ≤ 255) := by
  have : inBounds (Model.Item.rowOf .b) e = (decide (0 ≤ e) && decide (e ≤ 255)) := rfl
  rw [this, Bool.and_eq_true, decide_eq_true_eq, decide_eq_true_eq]

theorem boolElem_denote (p : PyVal) (v : Int) (hv : boolElem (Model.Item.rowOf .bool) p = .ok v) : denoteScalar .bool p = some [v] := by
  match p with
  | .bool b =>
    cases b <;> simp only [boolElem, Bool.false_eq_true, if_false, if_true] at hv <;>
      (split at hv
       · injection hv with hv; subst hv; rfl
       · cases hv)
  | .int n =>
    simp only [boolElem] at hv
    split at hv
    · rename_i hb
      injection hv with hv; subst hv
      have := (bool_bounds n).mp hb
      simp only [denoteScalar]
      by_cases h1 : n = 1
      · subst h1; rfl
      · have : n = 0 := by omega
        subst this; rfl
    · cases hv
  | .none | .float _ | .str _ | .bytes _ | .bytearray _ | .list _ | .tuple _ | .obj _ => simp [boolElem] at hv

theorem boolElems_denote : ∀ (ps : List PyVal) (vs : List Int), boolElems (Model.Item.rowOf .bool) ps = .ok vs → denoteList .bool ps = some vs
  | [], vs, hv => by simp only [boolElems] at hv; injection hv with hv; subst hv; rfl
  | p :: ps, vs, hv => by
    simp only [boolElems] at hv
    split at hv
    · cases hv
    · rename_i v h1
      split at hv
      · cases hv
      · rename_i ws h2
        injection hv with hv; subst hv
        simp only [denoteList, boolElem_denote p v h1, boolElems_denote ps ws h2, List.singleton_append]

theorem binElem_denote (p : PyVal) (bs : Bytes) (hv : binElem (Model.Item.rowOf .b) p = .ok bs) :
    denoteScalar .b p = some (bs.map (fun (b : Nat) => (b : Int))) := by
  match p with
  | .bool b =>
    cases b <;> simp only [binElem, Bool.false_eq_true, if_false, if_true] at hv <;>
      (split at hv
       · injection hv with hv; subst hv; rfl
       · cases hv)
  | .int n =>
    simp only [binElem] at hv
    split at hv
    · rename_i hb
      injection hv with hv; subst hv
      have := (bin_bounds n).mp hb
      simp only [denoteScalar, List.map_cons, List.map_nil]
      have : ((n.toNat : Nat) : Int) = n := Int.toNat_of_nonneg this.1
      rw [this]
    · cases hv
  | .str cps =>
    simp only [binElem] at hv
    simp only [denoteScalar, Ty.kind, hv]
  | .bytes bs' =>
    simp only [binElem] at hv
    injection hv with hv; subst hv
    simp only [denoteScalar, Ty.kind]
  | .none | .float _ | .bytearray _ | .list _ | .tuple _ | .obj _ => simp [binElem] at hv

theorem binElems_denote : ∀ (ps : List PyVal) (bs : Bytes), binElems (Model.Item.rowOf .b) ps = .ok bs →
    denoteList .b ps = some (bs.map (fun (b : Nat) => (b : Int)))
  | [], bs, hv => by simp only [binElems] at hv; injection hv with hv; subst hv; rfl
  | p :: ps, bs, hv => by
    simp only [binElems] at hv
    split at hv
    · cases hv
    · rename_i v h1
      split at hv
      · cases hv
      · rename_i ws h2
        injection hv with hv; subst hv
        simp only [denoteList, binElem_denote p v h1, binElems_denote ps ws h2, List.map_append]

end

theorem holds_value (t : Ty) (p : PyVal) (es : List Int) (hab : ∀ bs, p = .bytes bs → AllBytes bs)
    (h : Model.Item.validateLeaf t p = .ok es) : denote t p = some es := by
  induction t using Ty.kind_cases with
  | b =>
    simp only [Model.Item.validateLeaf, Ty.kind] at h
    split at h
    · cases h
    · rename_i bs hb
      injection h with h; subst h
      split at hb
      · exact binElems_denote _ bs hb
      · rename_i hnl
        rw [denote_of_not_list _ hnl]; exact binElem_denote _ bs hb
  | bool =>
    simp only [Model.Item.validateLeaf, Ty.kind] at h
    split at h
    · exact boolElems_denote _ es h
    · rename_i hnl
      rw [denote_of_not_list _ hnl]
      split at h
      · cases h
      · rename_i v hv
        injection h with h; subst h
        exact boolElem_denote _ v hv
  | a =>
    simp only [Model.Item.validateLeaf, Ty.kind] at h
    split at h
    · injection h with h; subst h; rfl
    · rw [item_coding, string_coding, decodeText_latin] at h
      injection h with h; subst h; rfl
    · cases h
  | j =>
    simp only [Model.Item.validateLeaf, Ty.kind] at h
    split at h
    · injection h with h; subst h; rfl
    · rename_i bs
      rw [item_coding, jis8_coding, decodeText_jis bs (hab bs rfl)] at h
      injection h with h; subst h; rfl
    · cases h
  | num t hk =>
    rcases hk with k | k | k | k <;> simp only [Model.Item.validateLeaf, k] at h <;>
      (split at h
       · exact numElems_denote t _ es h
       · rename_i hnl
         rw [denote_of_not_list _ hnl]
         split at h
         · cases h
         · rename_i v hv
           injection h with h; subst h
           exact numElem_denote t _ v hv)

end SecsModel.Proofs.CodecItem
