import SecsModel.Spec.Sfdl
import SecsModel.Proofs.SfdlTables
/-!
# Proofs.SfdlTok — the character loop reads every layout of a definition as the definition's tokens

`scan_def`: for all trees whose names are words and for all layouts (blanks, CR, LF, comments to the line break also directly
after a word) the scanner reads the text of a definition as its tokens; `Props.C19.tokenize_render` adds the gaps around it and a
comment at the end of the text.
-/
namespace SecsModel.Proofs.Sfdl
open SecsModel SecsModel.Spec.Sfdl SecsModel.Model.Sfdl

theorem char_classes (c : Char) :
    Gen.SfdlChars.whitespaces.contains c = isWs c ∧ Gen.SfdlChars.operators.contains c = isOp c
    ∧ Gen.SfdlChars.commentStart.contains c = (c == '#') ∧ Gen.SfdlChars.commentEnd.contains c = isEol c := by
  obtain ⟨h1, h2, h3, h4⟩ := gen_chars
  rw [h1, h2, h3, h4]
  -- `simp` turns `contains` into `decide (c = _)`; `isWs`, `isOp`, `isEol` are written with `c == _`, which on `Char` is that by
  -- definition
  simp [isWs, isOp, isEol, Bool.or_assoc, show ∀ a b : Char, (a == b) = decide (a = b) from fun _ _ => rfl]

theorem scan_nil (cur : List Char) (b : Bool) : scan [] cur b = flush cur := by simp [scan]

/-- inside a comment only a line break matters (`#` is none) -/
theorem scan_cons_comment (c : Char) (cs cur : List Char) : scan (c :: cs) cur true = scan cs cur (!isEol c) := by
  obtain ⟨-, -, hs, he⟩ := char_classes c
  rw [scan]
  simp only [hs, he, if_true, ite_self]

theorem scan_cons_text (c : Char) (cs cur : List Char) :
    scan (c :: cs) cur false =
      if c = '#' then flush cur ++ scan cs [] true
      else if isWs c then flush cur ++ scan cs [] false
      else if isOp c then flush cur ++ ([c] :: scan cs [] false)
      else scan cs (cur ++ [c]) false := by
  obtain ⟨hw, ho, hs, he⟩ := char_classes c
  rw [scan]
  simp only [hw, ho, hs, he, beq_iff_eq]
  by_cases h : c = '#'
  · subst h; simp [isEol]
  · simp [h]

theorem flush_nil : flush [] = [] := rfl
theorem flush_ne {w : List Char} (h : w ≠ []) : flush w = [w] := by
  cases w with
  | nil => exact absurd rfl h
  | cons a t => rfl

theorem scan_in_comment (body : List Char) (hb : ∀ c ∈ body, isEol c = false) (rest cur : List Char) :
    scan (body ++ rest) cur true = scan rest cur true := by
  induction body with
  | nil => rfl
  | cons c t ih =>
    rw [List.cons_append, scan_cons_comment, hb c List.mem_cons_self]
    exact ih fun x hx => hb x (List.mem_cons_of_mem c hx)

theorem filter_noEol (body : List Char) : ∀ c ∈ body.filter (fun c => !isEol c), isEol c = false := by
  intro c hc
  simpa using (List.mem_filter.mp hc).2

theorem ws_isWs (c : WsChar) : isWs c.toChar = true ∧ c.toChar ≠ '#' := by cases c <;> decide
theorem eol_isEol (e : Eol) : isEol e.toChar = true := by cases e <;> decide

theorem scan_piece (p : Piece) (rest cur : List Char) :
    scan (p.render ++ rest) cur false = flush cur ++ scan rest [] false := by
  cases p with
  | ws c =>
    rw [Piece.render, List.singleton_append, scan_cons_text, if_neg (ws_isWs c).2, (ws_isWs c).1, if_pos rfl]
  | comment body e =>
    rw [Piece.render, List.cons_append, scan_cons_text, if_pos rfl, List.append_assoc, scan_in_comment _ (filter_noEol body),
      List.singleton_append, scan_cons_comment, eol_isEol e]
    rfl

theorem scan_gap (g : Gap) (rest : List Char) : scan (renderGap g ++ rest) [] false = scan rest [] false := by
  induction g with
  | nil => rfl
  | cons p g ih => simp only [renderGap, List.append_assoc, scan_piece, flush_nil, List.nil_append, ih]

theorem scan_gap_ne (g : Gap) (hg : g ≠ []) (rest cur : List Char) :
    scan (renderGap g ++ rest) cur false = flush cur ++ scan rest [] false := by
  cases g with
  | nil => exact absurd rfl hg
  | cons p g => simp only [renderGap, List.append_assoc, scan_piece, scan_gap]

theorem scan_op (o : Char) (ho : isOp o = true) (rest cur : List Char) :
    scan (o :: rest) cur false = flush cur ++ [o] :: scan rest [] false := by
  have ho1 : o ≠ '#' := by intro h; subst h; exact absurd ho (by decide)
  have ho2 : isWs o = false := by
    simp only [isOp, Bool.or_eq_true, beq_iff_eq] at ho
    rcases ho with h | h <;> subst h <;> decide
  simp only [scan_cons_text, if_neg ho1, ho2, ho, if_true]
  simp

theorem scan_gap_op (g : Gap) (o : Char) (ho : isOp o = true) (rest cur : List Char) :
    scan (renderGap g ++ o :: rest) cur false = flush cur ++ scan (o :: rest) [] false := by
  cases g with
  | nil => rw [renderGap, List.nil_append, scan_op o ho rest cur, scan_op o ho rest []]; rfl
  | cons p g => exact scan_gap_ne _ (by simp) _ _

theorem scan_word (w : List Char) (hw : w.all isWordChar = true) (rest cur : List Char) :
    scan (w ++ rest) cur false = scan rest (cur ++ w) false := by
  induction w generalizing cur with
  | nil => simp
  | cons c t ih =>
    obtain ⟨hc, ht⟩ : isWordChar c = true ∧ t.all isWordChar = true := by simpa using hw
    simp only [isWordChar, Bool.and_eq_true, Bool.not_eq_true', bne_iff_ne, ne_eq] at hc
    obtain ⟨⟨hws : isWs c = false, hop : isOp c = false⟩, hhash : ¬c = '#'⟩ := hc
    rw [List.cons_append, scan_cons_text, if_neg hhash, hws, hop, if_neg (by decide), if_neg (by decide), ih ht, List.append_assoc]
    rfl

theorem sep_ne (g : Gap) : sep g ≠ [] := by cases g <;> simp [sep]

theorem renderDef_head (d : Def) (g : List Nat → Nat → Gap) : ∃ tl, renderDef d g = '<' :: tl := by
  match d with
  | .item _ | .list none _ | .list (some _) _ => exact ⟨_, by rw [renderDef]⟩

theorem members_head (ms : List Def) (g : List Nat → Nat → Gap) (i : Nat) (rest : List Char) :
    ∃ o tl, isOp o = true ∧ renderMembers ms g i ++ '>' :: rest = o :: tl := by
  cases ms with
  | nil => exact ⟨'>', rest, by decide, by simp [renderMembers]⟩
  | cons m ms =>
    obtain ⟨tl, h⟩ := renderDef_head m (sub g i)
    exact ⟨'<', _, by decide, by rw [renderMembers, h]; rfl⟩

mutual
theorem scan_def : ∀ (d : Def) (g : List Nat → Nat → Gap) (rest : List Char), wordsOk d = true →
    scan (renderDef d g ++ rest) [] false = tokensOf d ++ scan rest [] false
  | .item n, g, rest, h => by
    rw [wordsOk] at h
    obtain ⟨hn, hall⟩ := isWord_parts h
    rw [renderDef, tokensOf]
    simp only [List.cons_append, List.append_assoc, List.nil_append]
    rw [scan_op '<' (by decide), scan_gap, scan_word n hall, List.nil_append, scan_gap_op _ '>' (by decide), flush_ne hn,
      scan_op '>' (by decide)]
    rfl
  | .list nm ms, g, rest, h => by
    obtain ⟨hx, hms⟩ := wordsOk_list.mp h
    -- after the header, with its last word `w` pending: a gap, the members, the closing bracket
    have tail : ∀ (gx : Gap) (w : List Char), w ≠ [] →
        scan (renderGap gx ++ (renderMembers ms g 0 ++ '>' :: rest)) w false = w :: (tokensOfList ms ++ ['>'] :: scan rest [] false) := by
      intro gx w hw
      obtain ⟨o, tl, ho, htl⟩ := members_head ms g 0 rest
      rw [htl, scan_gap_op _ o ho, ← htl, flush_ne hw, scan_members ms g 0 _ hms, scan_op '>' (by decide)]
      rfl
    have hL : ∀ r, scan ('L' :: r) [] false = scan r ['L'] false := fun r => scan_word ['L'] (by decide) r []
    cases nm with
    | none =>
      rw [renderDef, tokensOf]
      simp only [List.cons_append, List.append_assoc, List.nil_append]
      rw [scan_op '<' (by decide), scan_gap, hL, tail _ _ (by simp)]
      rfl
    | some x =>
      obtain ⟨hxn, hxall⟩ := isWord_parts (hx x rfl)
      rw [renderDef, tokensOf]
      simp only [List.cons_append, List.append_assoc, List.nil_append]
      rw [scan_op '<' (by decide), scan_gap, hL, scan_gap_ne _ (sep_ne _), scan_word x hxall, List.nil_append, tail _ _ hxn]
      rfl
theorem scan_members : ∀ (ms : List Def) (g : List Nat → Nat → Gap) (i : Nat) (rest : List Char), wordsOkL ms = true →
    scan (renderMembers ms g i ++ rest) [] false = tokensOfList ms ++ scan rest [] false
  | [], g, i, rest, _ => by simp [renderMembers, tokensOfList]
  | m :: ms, g, i, rest, h => by
    obtain ⟨hm, hms⟩ := wordsOkL_cons.mp h
    rw [renderMembers, tokensOfList]
    simp only [List.append_assoc]
    rw [scan_def m (sub g i) _ hm, scan_gap, scan_members ms g (i + 1) rest hms]
end

end SecsModel.Proofs.Sfdl
