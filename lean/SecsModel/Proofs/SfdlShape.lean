import SecsModel.Proofs.SfdlParse
/-!
# Proofs.SfdlShape — `generate` builds the documented shape

For a definition with non-empty lists, pairwise different member keys and list names only in the placements of
`namesAsDocumented`, `generate (fmtOf d none)` is a variable tree whose observable shape (`erase`) is `Spec.Sfdl.shape d`, and
`List._generate` files each member under `Spec.Sfdl.key`.  What a list name does to the format is `fmtOf_named`; the placements
are those where the name the code hands down to the members does not show (`fmtOf_underName`) or only names a `List`
(`gen_fields` holds for every name of the list).
-/
namespace SecsModel.Proofs.Sfdl
open SecsModel SecsModel.Spec.Sfdl SecsModel.Model.Sfdl

theorem dictSet_new (acc : List (Name × Obj)) (k : Name) (v : Obj) (h : ∀ p ∈ acc, p.1 ≠ k) :
    dictSet acc k v = acc ++ [(k, v)] := by
  induction acc with
  | nil => rfl
  | cons p t ih =>
    have hk : (p.1 == k) = false := by simpa using h p (by simp)
    rw [dictSet, hk, List.cons_append, ← ih (fun q hq => h q (by simp [hq]))]
    rfl

theorem genFields_cons {x : Fmt} (hx : ∀ s, x ≠ .str s) (rest : List Fmt) (nm : Name) (acc : List (Name × Obj)) :
    genFields (x :: rest) nm acc =
      (generate x).bind fun v => (memberKey v x).bind fun k => genFields rest nm (dictSet acc k v) := by
  rw [genFields]
  · rcases generate x with e | v
    · rfl
    · rcases hk : memberKey v x with e | k <;> simp [Except.bind, hk]
  · exact fun s h => hx s h

theorem generate_many {xs : List Fmt} (h : xs.length ≠ 1) {nm : Name} {fs : List (Name × Obj)}
    (hf : genFields xs dataName [] = .ok (nm, fs)) : generate (.list xs) = .ok (.record nm fs) := by
  rw [generate]
  · simp only [hf]
  · rintro x rfl; exact h rfl

theorem fmtOf_item (n : Name) (inh : Option Name) : fmtOf (.item n) inh = .cls n := by rw [fmtOf]

theorem fmtOf_unnamed (ms : List Def) : fmtOf (.list none ms) none = .list (fmtOfL ms none) := by simp [fmtOf]

/-- A list whose name is `x` — its own, or else the inherited one — and non-empty: `.str x` stands in front exactly when the
first member is a data item, and the members inherit the list's *own* name `nm`, not `x`. -/
theorem fmtOf_named {x : Name} (hx : x.isEmpty = false) {nm inh : Option Name} (h : nm.or inh = some x) (ms : List Def) :
    fmtOf (.list nm ms) inh = .list ((if firstIsItem ms then [.str x] else []) ++ fmtOfL ms nm) := by
  cases nm with
  | some y => cases h; simp [fmtOf, hx]
  | none => cases inh <;> cases h; simp [fmtOf, hx]

/-- An inherited name shows only in an unnamed list whose first member is a data item (`fmtOf_named`); `okUnderName` excludes
exactly those, so under it the name the code hands down is invisible. -/
theorem fmtOf_underName (m : Def) (x : Name) (h : okUnderName m = true) : fmtOf m (some x) = fmtOf m none := by
  match m, h with
  | .item n, _ => simp [fmtOf]
  | .list (some y) ms, _ => simp [fmtOf]
  | .list none (.list nm' ms' :: rest), _ => simp [fmtOf, firstIsItem, isItem]
  | .list none [], h => simp [okUnderName] at h
  | .list none (.item _ :: _), h => simp [okUnderName] at h

theorem fmtOfL_underName (ms : List Def) (x : Name) (h : allOkUnderName ms = true) : fmtOfL ms (some x) = fmtOfL ms none := by
  induction ms with
  | nil => simp [fmtOfL]
  | cons m ms ih =>
    simp only [allOkUnderName, Bool.and_eq_true] at h
    simp only [fmtOfL, fmtOf_underName m x h.1, ih h.2]

theorem named_forms {ms : List Def} (h : namedForm ms = true) :
    (∃ n m2 rest, ms = .item n :: m2 :: rest ∧ allOkUnderName (m2 :: rest) = true)
    ∨ (∃ n1 m2 rest, ms = [.list none (.item n1 :: m2 :: rest)]) := by
  unfold namedForm at h
  split at h
  · rename_i n m2 rest; exact Or.inl ⟨n, m2, rest, rfl, h⟩
  · rename_i n1 m2 rest; exact Or.inr ⟨n1, m2, rest, rfl⟩
  · exact absurd h (by decide)

theorem distinct_nodup : ∀ {ks : List Name}, distinct ks = true → ks.Nodup
  | [], _ => List.nodup_nil
  | k :: ks, h => by
    simp only [distinct, Bool.and_eq_true, Bool.not_eq_true', List.contains_eq_mem, decide_eq_false_iff_not] at h
    exact List.nodup_cons.mpr ⟨h.1, distinct_nodup h.2⟩

theorem isWord_ne {x : Name} (h : isWord x = true) : x.isEmpty = false :=
  List.isEmpty_eq_false_iff.mpr (isWord_parts h).1

theorem fmtOf_not_str (m : Def) (inh : Option Name) : ∀ s, fmtOf m inh ≠ .str s := by
  intro s
  cases m with
  | item n => simp [fmtOf]
  | list nm ms => simp [fmtOf]

/-- the format of a first member is never a string, so `get_name_from_format` answers `DATA` -/
theorem nameFromFormat_members (m : Def) (ms : List Def) (key : Option Name) :
    nameFromFormat (fmtOfL (m :: ms) key) = .ok dataName := by
  rw [fmtOfL]
  cases m with
  | item n => simp [fmtOf, nameFromFormat]
  | list nm ms' => simp [fmtOf, nameFromFormat]

theorem arrayName_member {m : Def} (hs : soleNamed [m] = false) (hne : nonEmptyLists m = true) :
    arrayName (fmtOf m none) = .ok (key (.list none [m])) := by
  match m, hs, hne with
  | .item n, _, _ => simp [fmtOf, arrayName, key]
  | .list (some y) ms', h1, _ => simp [soleNamed] at h1
  | .list none [], _, h2 => simp [nonEmptyLists] at h2
  | .list none (m1 :: ms'), _, _ =>
    rw [fmtOf_unnamed, arrayName, nameFromFormat_members]
    simp [key, dataName, dataKey]

mutual
/-- **`generate` builds the documented shape** from the format of a definition that stands on its own (no inherited name) -/
theorem gen_def : ∀ (d : Def), wordsOk d = true → nonEmptyLists d = true → namesAsDocumented d = true → keysDistinct d = true →
    ∃ o, generate (fmtOf d none) = .ok o ∧ erase o = some (shape d) ∧ memberKey o (fmtOf d none) = .ok (key d)
  | .item n, _, _, _, _ => ⟨.item n, by rw [fmtOf, generate], by rw [erase, shape], by rw [fmtOf, memberKey, key]⟩
  | .list nm [], _, hne, _, _ => by simp [nonEmptyLists] at hne
  | .list nm [m], hw, hne, hn, hd => by
    obtain ⟨hx, hwm⟩ := wordsOk_list.mp hw
    simp [nonEmptyLists, keysDistinct, wordsOkL, nonEmptyListsL, keysDistinctL] at hwm hne hd
    obtain ⟨-, hdm : keysDistinct m = true⟩ := hd
    cases nm with
    | none =>
      simp [namesAsDocumented, namesAsDocumentedL] at hn
      obtain ⟨hsole : soleNamed [m] = false, hnm : namesAsDocumented m = true⟩ := hn
      obtain ⟨o, ho, he, -⟩ := gen_def m hwm hne hnm hdm
      refine ⟨.array (key (.list none [m])) o, ?_, by simp [erase, he, shape], rfl⟩
      rw [fmtOf_unnamed, fmtOfL, fmtOfL, generate, arrayName_member hsole hne]
      simp only [ho]
    | some x =>
      -- `< L NAME < L < item > … > >`: the member shows the inherited name in front of its own members, so `List._generate`
      -- runs over them with `NAME` for `DATA`, which `erase` does not see
      match m, hwm, hne, hn, hdm with
      | .list none ms', hwm, hne, hn, hdm =>
        simp [wordsOk, nonEmptyLists, keysDistinct, namesAsDocumented, namesAsDocumentedL] at hwm hne hdm hn
        obtain ⟨-, hne' : nonEmptyListsL ms' = true⟩ := hne
        obtain ⟨hform : namedForm [.list none ms'] = true, -, hn' : namesAsDocumentedL ms' = true⟩ := hn
        obtain ⟨hdist : distinct (keysOf ms') = true, hd' : keysDistinctL ms' = true⟩ := hdm
        obtain ⟨fs, hfs, hes⟩ := gen_fields ms' hwm hne' hn' hd' x [] (distinct_nodup hdist)
        rcases named_forms hform with ⟨_, _, _, heq, -⟩ | ⟨n1, m2, rest, heq⟩
        · cases heq
        · cases heq
          have hxe := isWord_ne (hx x rfl)
          refine ⟨.array x (.record x fs), ?_, by simp [erase, hes, shape], rfl⟩
          rw [fmtOf_named hxe rfl, fmtOfL, fmtOfL, fmtOf_named hxe rfl]
          simp only [firstIsItem, isItem, Bool.false_eq_true, if_false, if_true, List.nil_append, List.singleton_append]
          have hinner : generate (.list (.str x :: fmtOfL (.item n1 :: m2 :: rest) none)) = .ok (.record x fs) :=
            generate_many (by simp [fmtOfL]) (by rw [genFields]; exact hfs)
          rw [generate, arrayName, nameFromFormat, hinner]
      | .item _, _, _, hn, _ | .list (some _) _, _, _, hn, _ => simp [namesAsDocumented, namesAsDocumentedL, namedForm] at hn
  | .list nm (m1 :: m2 :: rest), hw, hne, hn, hd => by
    obtain ⟨hx, hwms⟩ := wordsOk_list.mp hw
    simp [nonEmptyLists, keysDistinct] at hne hd
    obtain ⟨hdist : distinct (keysOf (m1 :: m2 :: rest)) = true, hd' : keysDistinctL (m1 :: m2 :: rest) = true⟩ := hd
    cases nm with
    | none =>
      simp [namesAsDocumented] at hn
      obtain ⟨-, hn' : namesAsDocumentedL (m1 :: m2 :: rest) = true⟩ := hn
      obtain ⟨fs, hfs, hes⟩ := gen_fields (m1 :: m2 :: rest) hwms hne hn' hd' dataName [] (distinct_nodup hdist)
      refine ⟨.record dataName fs, ?_, by simp [erase, hes, shape], ?_⟩
      · rw [fmtOf_unnamed]
        exact generate_many (by simp [fmtOfL]) hfs
      · rw [fmtOf_unnamed, memberKey, nameFromFormat_members]
        simp [key, dataName, dataKey]
    | some x =>
      simp [namesAsDocumented] at hn
      obtain ⟨hform : namedForm (m1 :: m2 :: rest) = true, hn' : namesAsDocumentedL (m1 :: m2 :: rest) = true⟩ := hn
      obtain ⟨fs, hfs, hes⟩ := gen_fields (m1 :: m2 :: rest) hwms hne hn' hd' x [] (distinct_nodup hdist)
      rcases named_forms hform with ⟨n, _, _, heq, hokn⟩ | ⟨_, _, _, heq⟩
      · cases heq
        have hfmt : fmtOf (.list (some x) (.item n :: m2 :: rest)) none = .list (.str x :: fmtOfL (.item n :: m2 :: rest) none) := by
          rw [fmtOf_named (isWord_ne (hx x rfl)) rfl, fmtOfL_underName _ x (by simpa [allOkUnderName, okUnderName] using hokn)]
          rfl
        refine ⟨.record x fs, ?_, by simp [erase, hes, shape], by rw [hfmt]; rfl⟩
        rw [hfmt]
        exact generate_many (by simp [fmtOfL]) (by rw [genFields]; exact hfs)
      · cases heq
/-- `List._generate` over the members of a fixed length list files every member under its documented key, in order (the keys
are new: `dictSet` appends) -/
theorem gen_fields : ∀ (ms : List Def), wordsOkL ms = true → nonEmptyListsL ms = true →
    namesAsDocumentedL ms = true → keysDistinctL ms = true →
    ∀ (nm : Name) (acc : List (Name × Obj)), (acc.map (·.1) ++ keysOf ms).Nodup →
    ∃ fs, genFields (fmtOfL ms none) nm acc = .ok (nm, acc ++ fs) ∧ eraseL fs = some (shapeFields ms)
  | [], _, _, _, _, nm, acc, _ => ⟨[], by simp [fmtOfL, genFields], rfl⟩
  | m :: ms, hw, hne, hn, hd, nm, acc, hnd => by
    -- each hypothesis becomes `P m = true ∧ PL ms = true`
    simp [wordsOkL, nonEmptyListsL, namesAsDocumentedL, keysDistinctL] at hw hne hn hd
    obtain ⟨o, ho, he, hkey⟩ := gen_def m hw.1 hne.1 hn.1 hd.1
    obtain ⟨-, -, hfresh⟩ := List.nodup_append.mp hnd
    have hnew : dictSet acc (key m) o = acc ++ [(key m, o)] :=
      dictSet_new acc (key m) o fun p hp => hfresh p.1 (List.mem_map_of_mem hp) (key m) List.mem_cons_self
    obtain ⟨fs, hfs, hes⟩ := gen_fields ms hw.2 hne.2 hn.2 hd.2 nm (acc ++ [(key m, o)]) (by simpa [keysOf] using hnd)
    refine ⟨(key m, o) :: fs, ?_, by simp [eraseL, he, hes, shapeFields]⟩
    rw [fmtOfL, genFields_cons (fmtOf_not_str m none), ho]
    simp only [Except.bind, hkey, hnew, hfs, List.append_assoc, List.singleton_append]
end

end SecsModel.Proofs.Sfdl
