import SecsModel.Model.FnCodec
/-! Table obligations of C03 over the generated data item table (`Gen.DataItems`) and the generated catalogue (`Gen.Catalogue`):
the kernel evaluates the model over the generated rows, on every run; `function_of_nodup` and the `row_…` readings hand the result to
`Props/C03.lean` and `Props/C03b.lean`. -/
namespace SecsModel.Proofs.C03Tab

/-- The entries of a table are shown distinct through numbers computed from them
(`nodup_of_map`): comparing two numbers is one step for the kernel, comparing two names or pairs many. -/
def distinctNat : List Nat → Bool
  | [] => true
  | k :: ks => !ks.any (Nat.beq k) && distinctNat ks

theorem distinctNat_nodup : ∀ l : List Nat, distinctNat l = true → l.Nodup
  | [], _ => List.nodup_nil
  | k :: ks, h => by
    simp only [distinctNat, Bool.and_eq_true, Bool.not_eq_true', List.any_eq_false] at h
    exact List.nodup_cons.mpr ⟨fun hk => h.1 k hk (Nat.beq_refl k), distinctNat_nodup ks h.2⟩

/-- whatever `f` is: `nameCode` and `keyCode` below need not be shown injective (they are, so that the evaluation fails only on a
real duplicate) -/
theorem nodup_of_map {α β} (f : α → β) {l : List α} (h : (l.map f).Nodup) : l.Nodup :=
  (List.pairwise_map.mp h).imp fun hne he => hne (congrArg f he)

section items
open SecsModel.Gen.DataItems

/-- digits `c + 1` in base 1114112 = 0x110000, the number of code points; no digit is 0, so names of different length differ too -/
def nameCode (n : List Char) : Nat := n.foldl (fun a c => a * 1114112 + c.toNat + 1) 0

theorem items_cls_eq_name : items.all (fun i => i.cls == i.name) = true := by decide +kernel

theorem items_cls_distinct : distinctNat ((items.map (·.cls)).map nameCode) = true := by decide +kernel

/-- the table lists the classes the `data_items` package exports, each as often as the package does (once: `items_cls_distinct`);
`List.isPerm` is one pass while both lists are in the same order -/
theorem items_cls_perm : (items.map (·.cls)).Perm moduleClasses := by decide +kernel

end items

section catalogue
open SecsModel SecsModel.Gen.Catalogue SecsModel.Model.Catalogue

def keyCode (k : Nat × Nat) : Nat := (k.1 + k.2) * (k.1 + k.2 + 1) / 2 + k.2

theorem py_keys_distinct : distinctNat ((py.map key).map keyCode) = true := by decide +kernel

/-- `functions.yaml` lists the keys of the classes, each as often as the classes do (once: `py_keys_distinct`);
`List.isPerm` is one pass while both lists are in the same order -/
theorem yaml_keys_perm : (yaml.map key).Perm (py.map key) := by decide +kernel

theorem function_of_nodup {cat : List Fn} (hd : (cat.map key).Nodup) {x : Fn} (hx : x ∈ cat) :
    function cat x.stream x.function = .ok (some x) := by
  obtain ⟨l₁, l₂, rfl⟩ := List.append_of_mem hx
  rw [List.map_append, List.map_cons, List.perm_middle.nodup_iff, List.nodup_cons, ← List.map_append] at hd
  have h (l : List Fn) (hl : l ⊆ l₁ ++ l₂) : l.filter (fun y => y.stream == x.stream && y.function == x.function) = [] :=
    List.filter_eq_nil_iff.mpr fun y hy hk => hd.1 (List.mem_map.mpr ⟨y, hl hy, by simpa [key] using hk⟩)
  simp [function, h l₁ (List.subset_append_left ..), h l₂ (List.subset_append_right ..)]

def structOk (f : Fn) : Bool := f.dataFormat.isNone || (Model.Fn.structOf f).isSome

/-- what is evaluated for one class row: `rowOk` without the lookup (which follows from the keys being distinct: `function_of_nodup`), and
`structOk`.  One evaluation for both, so that the kernel parses each structure text once. -/
def rowEval (x : Fn) : Bool :=
  formatOk x.dataFormat && (isS2F49 x || pairRule py x) && yamlRowAgrees yaml x && structOk x

theorem py_all_rowEval : py.all rowEval = true := by decide +kernel

theorem row_facts {x : Fn} (hx : x ∈ py) :
    formatOk x.dataFormat = true ∧ (isS2F49 x = true ∨ pairRule py x = true) ∧ yamlRowAgrees yaml x = true ∧ structOk x = true := by
  simpa [rowEval, and_assoc] using List.all_eq_true.mp py_all_rowEval x hx

theorem row_format {x : Fn} (hx : x ∈ py) : formatOk x.dataFormat = true := (row_facts hx).1
theorem row_pairing {x : Fn} (hx : x ∈ py) : isS2F49 x = true ∨ pairRule py x = true := (row_facts hx).2.1
theorem row_yaml {x : Fn} (hx : x ∈ py) : yamlRowAgrees yaml x = true := (row_facts hx).2.2.1
theorem row_struct {x : Fn} (hx : x ∈ py) (hd : x.dataFormat.isSome = true) : ∃ s, Model.Fn.structOf x = some s := by
  have h := (row_facts hx).2.2.2
  rw [structOk, Option.isNone_eq_false_iff.mpr hd] at h
  exact Option.isSome_iff_exists.mp h

end catalogue

end SecsModel.Proofs.C03Tab
