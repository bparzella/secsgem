import SecsModel.Basic.Py
/-! Normal forms for the translated Python: bit operations with a literal operand become `%`, `/`, `+` on `Nat` (the literal is a
variable of the lemma, tied to its power of two by a hypothesis that `rfl` closes at the use), and `struct.pack`/`unpack` become
concatenation and splitting of `be`. -/
namespace SecsModel.Py
open SecsModel

/-! In `x & 0x7F` the literal elaborates to `OfNat.ofNat 127`, not to a cast, so `band_nat` does not rewrite it. -/

theorem band_ofNat (a : Nat) (b : Nat) : band (a : Int) (OfNat.ofNat b) = ((a &&& b : Nat) : Int) := band_nat a b
theorem bor_ofNat (a : Nat) (b : Nat) : bor (a : Int) (OfNat.ofNat b) = ((a ||| b : Nat) : Int) := bor_nat a b
theorem shr_ofNat (a : Nat) (b : Nat) : shr (a : Int) (OfNat.ofNat b) = ((a >>> b : Nat) : Int) := shr_nat a b
theorem shl_ofNat (a : Nat) (b : Nat) : shl (a : Int) (OfNat.ofNat b) = ((a <<< b : Nat) : Int) := shl_nat a b
theorem bor_lit (a b : Nat) : bor (a : Int) ((b : Nat) : Int) = ((a ||| b : Nat) : Int) := bor_nat a b
theorem band_lit (a b : Nat) : band (a : Int) ((b : Nat) : Int) = ((a &&& b : Nat) : Int) := band_nat a b

/-- `n < b ^ k` as the range of an unsigned Python `int` (`b` is 2 for header fields, 256 for `struct` widths); `toNat_lt` is the way back. -/
theorem range_nat {n b k : Nat} (h : n < b ^ k) : 0 ≤ (n : Int) ∧ (n : Int) < (b : Int) ^ k :=
  ⟨Int.natCast_nonneg n, by exact_mod_cast h⟩

theorem toNat_lt {x : Int} {b k : Nat} (h : 0 ≤ x ∧ x < (b : Int) ^ k) : x.toNat < b ^ k :=
  (Int.toNat_lt h.1).mpr (by exact_mod_cast h.2)

/-- `(x & m) >> s` for `m = (2^w - 1) << s` -/
theorem shr_and_mask (x s w : Nat) : (x &&& (2 ^ w - 1) <<< s) >>> s = x / 2 ^ s % 2 ^ w := by
  rw [Nat.shiftRight_and_distrib, Nat.shiftLeft_shiftRight, Nat.shiftRight_eq_div_pow, Nat.and_two_pow_sub_one_eq_mod]

/-! A flag stored in the bit above a field `x < p`: the number `x + (if b then p else 0)`.  Only the three lemmas about Python's
operators need `p = 2^k`. -/

/-- `if b: x |= p` -/
theorem ite_bor_bit (p k : Nat) (hp : p = 2 ^ k) (x : Nat) (hx : x < p) (b : Bool) :
    (if b = true then bor (x : Int) (OfNat.ofNat p) else (x : Int)) = ((x + (if b then p else 0) : Nat) : Int) := by
  cases b
  · rfl
  · subst hp
    -- `2^k` is written `1 <<< k`: `Nat.shiftLeft_add_eq_or_of_lt` is stated for a shift
    rw [if_pos rfl, bor_ofNat, Nat.or_comm, if_pos rfl, Nat.add_comm, ← Nat.one_mul (2 ^ k), ← Nat.shiftLeft_eq,
      Nat.shiftLeft_add_eq_or_of_lt hx]

/-- `((v & p) >> k) == 1` -/
theorem shr_band_bit (p k : Nat) (hp : p = 2 ^ k) (v : Nat) :
    decide (shr (band (v : Int) (OfNat.ofNat p)) (OfNat.ofNat k) = 1) = decide (v / p % 2 = 1) := by
  have := shr_and_mask v k 1
  rw [Nat.shiftLeft_eq, Nat.one_mul, ← hp] at this
  rw [band_ofNat, shr_ofNat, this]
  exact decide_eq_decide.mpr (by omega)

/-- `v & (p - 1)` -/
theorem band_below (m p k : Nat) (hm : m + 1 = p) (hp : p = 2 ^ k) (v : Nat) :
    band (v : Int) (OfNat.ofNat m) = ((v % p : Nat) : Int) := by
  rw [band_ofNat, hp, ← Nat.and_two_pow_sub_one_eq_mod, ← hp, ← hm, Nat.add_sub_cancel]

theorem flag_lt {x p : Nat} (b : Bool) (h : x < p) : x + (if b then p else 0) < 2 * p := by
  cases b <;> simp <;> omega

theorem flag_mod {x p : Nat} (b : Bool) (h : x < p) : (x + if b then p else 0) % p = x := by
  cases b <;> simp [Nat.mod_eq_of_lt h]

theorem flag_div {x p : Nat} (b : Bool) (h : x < p) : decide ((x + if b then p else 0) / p % 2 = 1) = b := by
  have hp : 0 < p := by omega
  cases b <;> simp [Nat.div_eq_of_lt h, Nat.add_div_right _ hp]

theorem exists_flag {v p : Nat} (h : v < 2 * p) : ∃ x, ∃ b : Bool, x < p ∧ v = x + if b then p else 0 := by
  by_cases c : v < p
  · exact ⟨v, false, c, rfl⟩
  · exact ⟨v - p, true, by omega, by simp only [if_true]; omega⟩

theorem packBE_cons_ok {w : Nat} {v : Int} {rest : List (Nat × Int)} {bs : Bytes} (h : packBE ((w, v) :: rest) = .ok bs) :
    0 ≤ v ∧ v < 256 ^ w ∧ ∃ r, packBE rest = .ok r ∧ bs = be w v.toNat ++ r := by
  simp only [packBE] at h
  split at h
  · rename_i hv
    split at h
    · rename_i r hr
      injection h with h
      exact ⟨hv.1, hv.2, r, hr, h.symm⟩
    · cases h
  · cases h

theorem packBE_cons_nat (w n : Nat) (rest : List (Nat × Int)) (r : Bytes) (h1 : n < 256 ^ w)
    (hr : packBE rest = .ok r) : packBE ((w, (n : Int)) :: rest) = .ok (be w n ++ r) := by
  have c : (0 : Int) ≤ (n : Int) ∧ (n : Int) < 256 ^ w := range_nat h1
  simp only [packBE, c, and_self, if_true, hr, Int.toNat_natCast]

theorem packBE_single (w n : Nat) :
    packBE [(w, (n : Int))] = if n < 256 ^ w then .ok (be w n) else .error .structError := by
  by_cases h : n < 256 ^ w
  · rw [if_pos h, packBE_cons_nat w n [] [] h rfl, List.append_nil]
  · have : ¬ ((0 : Int) ≤ n ∧ (n : Int) < 256 ^ w) := fun c => h (toNat_lt (b := 256) c)
    rw [if_neg h, packBE, if_neg this]

theorem packBE_length : ∀ (fs : List (Nat × Int)) (bs : Bytes), packBE fs = .ok bs → bs.length = (fs.map (·.1)).sum
  | [], bs, h => by cases h; rfl
  | (w, v) :: rest, bs, h => by
    obtain ⟨_, _, r, hr, rfl⟩ := packBE_cons_ok h
    simp [packBE_length rest r hr]

theorem packBE_allBytes : ∀ (fs : List (Nat × Int)) (bs : Bytes), packBE fs = .ok bs → AllBytes bs
  | [], bs, h => by cases h; exact .nil
  | (w, v) :: rest, bs, h => by
    obtain ⟨_, _, r, hr, rfl⟩ := packBE_cons_ok h
    exact AllBytes.append_iff.mpr ⟨be_allBytes _ _, packBE_allBytes rest r hr⟩

theorem unpackFields_packBE : ∀ (fs : List (Nat × Int)) (bs : Bytes), packBE fs = .ok bs →
    unpackFields (fs.map (·.1)) bs = fs.map (·.2)
  | [], bs, h => rfl
  | (w, v) :: rest, bs, h => by
    obtain ⟨h0, h1, r, hr, rfl⟩ := packBE_cons_ok h
    have hl : (be w v.toNat).length = w := be_length _ _
    have hlt : v.toNat < 256 ^ w := toNat_lt ⟨h0, h1⟩
    simp only [List.map_cons, unpackFields]
    rw [List.take_left' hl, List.drop_left' hl, unpackFields_packBE rest r hr, ofBe_be_of_lt _ _ hlt, Int.toNat_of_nonneg h0]

theorem unpackBE_packBE (fs : List (Nat × Int)) (bs : Bytes) (h : packBE fs = .ok bs) :
    unpackBE (fs.map (·.1)) bs = .ok (fs.map (·.2)) := by
  simp [unpackBE, packBE_length fs bs h, unpackFields_packBE fs bs h]

end SecsModel.Py
