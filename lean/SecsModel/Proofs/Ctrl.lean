import SecsModel.Spec.E30Control
import SecsModel.Proofs.SMDefs
/-!
# Proofs.Ctrl — the control-state model against the E30 table

`stable init s remote` is the model state of a handler at rest in the E30 state `s`.  `stableStep` says, from the E30 table alone,
what one input does to such a handler; `stable_eval` ties it to the model by evaluation (read through `step_stable`, `sv_stable`,
`init_stable`, `table_refines`, and along a history `run_stable`); from `refused_spec` on the lemmas speak of `stableStep` and the
table only.
-/
namespace SecsModel.Proofs.Ctrl
open SecsModel.Model.SM SecsModel.Gen SecsModel.Model.Gem.Ctrl SecsModel.Spec.E30 SecsModel.Proofs.SMGen

/-- the shipped state that stands for an E30 state -/
def nameOf : S → String
  | .equipmentOffline => "EQUIPMENT_OFFLINE" | .attemptOnline => "ATTEMPT_ONLINE" | .hostOffline => "HOST_OFFLINE"
  | .onlineLocal => "ONLINE_LOCAL" | .onlineRemote => "ONLINE_REMOTE"

/-- E30 state of a shipped state name; CONTROL, OFFLINE, ONLINE, INIT are pseudo states (no E30 state) -/
def absName (nm : String) : Option S := allStates.find? (fun s => nameOf s == nm)

/-- the model state in which the control machine rests in `s` with exact flags -/
def stable (initial : String) (s : S) (remote : Bool) : CState :=
  { cur := stateIdx CtrlSM (nameOf s), flags := (List.range CtrlSM.states.length).map (fun x => x == stateIdx CtrlSM (nameOf s)),
    remote := remote, initial := initial }

def abs (c : CState) : Option SState := (absName (stateName CtrlSM c.cur)).map fun s => ⟨s, c.remote⟩

/-- the E30 triggers one model input stands for (`linkLost` is not an E30 trigger) -/
def expand (s : S) : Input → List Trig
  | .switchOnline p =>
    -- the probe is only sent if the operator's ON-LINE switch is accepted (transition 3)
    if s == .equipmentOffline then (match p with | .hostAnswers => [.opOnline, .probeOk] | _ => [.opOnline, .probeFail]) else [.opOnline]
  | .onlineBegin => [.opOnline]
  | .probe .hostAnswers => [.probeOk]
  | .probe _ => [.probeFail]
  | .switchOffline => [.opOffline]
  | .switchLocal => [.opLocal]
  | .switchRemote => [.opRemote]
  | .s1f15 => [.s1f15]
  | .s1f17 => [.s1f17]
  | .linkLost => []

def macroStep (failTo : S) (s : SState) : List Trig → SState × List Spec.E30.Out
  | [] => (s, [])
  | t :: rest =>
    let r := Spec.E30.step failTo s t
    let rr := macroStep failTo r.1 rest
    (rr.1, r.2 ++ rr.2)

def macroRun (failTo : S) (s : SState) : List (List Trig) → SState × List (List Spec.E30.Out)
  | [] => (s, [])
  | ts :: rest =>
    let r := macroStep failTo s ts
    let rr := macroRun failTo r.1 rest
    (rr.1, r.2 :: rr.2)

/-- the equipment-defined collection event ids of secsgem (`CollectionEventId`) -/
def ceidOf : CE → Int
  | .equipmentOffline => ceEquipmentOffline | .controlLocal => ceControlLocal | .controlRemote => ceControlRemote

def conc : Spec.E30.Out → Output
  | .ack n => .ack n
  | .event e => .ceid (ceidOf e)

def isRaised : Output → Bool
  | .raised _ => true
  | _ => false

/-- acknowledge codes and collection events of a step (what the host can see) -/
def visible (outs : List Output) : List Output := outs.filter (fun o => !isRaised o)

/-- the configured target of transition 4 in the shipped handler: always HOST OFF-LINE -/
def failTo : S := .hostOffline

def probeList : List Probe := [.hostAnswers, .hostSilent, .hostAborts, .notCommunicating]

end SecsModel.Proofs.Ctrl

namespace SecsModel.Props.C11
open SecsModel.Model.Gem.Ctrl SecsModel.Spec.E30 SecsModel.Proofs.Ctrl

-- `specStep` is the spec side of C11's statements, hence its namespace; it stands in this file because `stableStep` is defined from it.
/-- what the E30 table prescribes for one model input arriving in state `s` -/
def specStep (s : SState) (i : Input) : SState × List Spec.E30.Out := macroStep failTo s (expand s.st i)

end SecsModel.Props.C11

namespace SecsModel.Proofs.Ctrl
open SecsModel.Model.SM SecsModel.Gen SecsModel.Model.Gem.Ctrl SecsModel.Spec.E30 SecsModel.Proofs.SMGen SecsModel.Props.C11

/-- the operator's call names a transition the control machine does not have from `s`: the engine raises `WrongSourceStateError`
(a host message or probe outcome without a row is ignored silently instead) -/
def refused (s : S) : Input → Bool
  | .switchOnline _ | .onlineBegin => s != .equipmentOffline
  | .switchOffline => s == .equipmentOffline || s == .attemptOnline
  | .switchLocal => s != .onlineRemote
  | .switchRemote => s != .onlineLocal
  | _ => false

/-- What one input does to a handler at rest in `s`: successor and exact outputs.  Written from the E30 side only (`specStep`,
plus the exception for a refused operator call); `stable_eval` is what ties it to the model.  Link loss is not an E30 trigger:
the shipped handler ends in HOST OFF-LINE unless the probe is outstanding, silently. -/
def stableStep (s : SState) : Input → SState × List Output
  | .linkLost => (⟨if s.st == .attemptOnline then .attemptOnline else .hostOffline, s.remote⟩, [])
  | i => ((specStep s i).1, if refused s.st i then [.raised .wrongSource] else (specStep s i).2.map conc)

def stableRun (s : SState) : List Input → SState × List (List Output)
  | [] => (s, [])
  | i :: is => ((stableRun (stableStep s i).1 is).1, (stableStep s i).2 :: (stableRun (stableStep s i).1 is).2)

def allInputs : List Input :=
  probeList.map .switchOnline ++ probeList.map .probe ++ [.onlineBegin, .switchOffline, .switchLocal, .switchRemote, .s1f15, .s1f17, .linkLost]

theorem mem_allStates (s : S) : s ∈ allStates := by cases s <;> decide

theorem mem_probeList (p : Probe) : p ∈ probeList := by cases p <;> decide

theorem mem_allInputs (i : Input) : i ∈ allInputs := by
  cases i with
  | switchOnline p => exact List.mem_append_left _ (List.mem_append_left _ (List.mem_map_of_mem (mem_probeList p)))
  | probe p => exact List.mem_append_left _ (List.mem_append_right _ (List.mem_map_of_mem (mem_probeList p)))
  | _ => exact List.mem_append_right _ (by decide)

theorem mem_bools (b : Bool) : b ∈ [true, false] := by cases b <;> decide

def specDefault (initial : String) : Option Default :=
  if initial == "EQUIPMENT_OFFLINE" then some .equipmentOffline else if initial == "ATTEMPT_ONLINE" then some .attemptOnline
  else if initial == "HOST_OFFLINE" then some .hostOffline else if initial == "ONLINE" then some .online else none

/-- the constructor: transitions 1, 2 (7), and for the ATTEMPT ON-LINE default the failing probe (communication is not enabled yet) -/
def specInit (d : Default) (remote : Bool) : SState × List Spec.E30.Out :=
  let r := Spec.E30.initial d remote
  match d with
  | .attemptOnline => let r2 := Spec.E30.step failTo r.1 .probeFail; (r2.1, r.2 ++ r2.2)
  | _ => r

/-- which E30 trigger a shipped transition implements, and the value of `failTo` it corresponds to -/
def trigOf (name : String) : Option (Trig × Option S) :=
  if name == "switch_online" then some (.opOnline, none)
  else if name == "attempt_online_fail_host_offline" then some (.probeFail, some .hostOffline)
  else if name == "attempt_online_fail_equipment_offline" then some (.probeFail, some .equipmentOffline)
  else if name == "attempt_online_success" then some (.probeOk, none)
  else if name == "switch_offline" then some (.opOffline, none)
  else if name == "switch_online_local" then some (.opLocal, none)
  else if name == "switch_online_remote" then some (.opRemote, none)
  else if name == "remote_offline" then some (.s1f15, none)
  else if name == "remote_online" then some (.s1f17, none)
  else none

def tgtMatches (t : Tgt) (dst : String) : Bool :=
  match t with
  | .to s => absName dst == some s
  | .online => dst == "ONLINE"

/-- every shipped transition that implements a trigger, from every source that is an E30 state, is a row of the E30 table -/
def genInSpec : Bool :=
  CtrlSM.transitions.all fun tr =>
    match trigOf tr.1 with
    | none => true
    | some (trig, ft) =>
      tr.2.1.all fun src =>
        match absName src with
        | none => true                                    -- pseudo state (ONLINE as a source): never the resting state
        | some s => (table (ft.getD failTo)).any fun row => row.src == s && row.trig == trig && tgtMatches row.tgt tr.2.2

/-- every row of the E30 table is implemented by a shipped transition -/
def specInGen : Bool :=
  (table failTo).all fun row =>
    CtrlSM.transitions.any fun tr =>
      (match trigOf tr.1 with
        | some (trig, ft) => trig == row.trig && (ft == none || ft == some failTo)
        | none => false) &&
      tr.2.1.contains (nameOf row.src) && tgtMatches row.tgt tr.2.2

/-- the remaining shipped transitions are the entry pseudo-transitions 1, 2, 7: they start in pseudo states only -/
def pseudoOnly : Bool :=
  CtrlSM.transitions.all fun tr =>
    match trigOf tr.1 with
    | some _ => true
    | none => tr.2.1.all fun src => absName src == none

/-- Everything that is evaluated over the generated tables: every input in every `stable` state (4 configured defaults × 5 states
× 2 remembered sub-states × 15 inputs), SVID 1002 there, the constructor, and the table against the E30 table.  One kernel
check on purpose: the evaluation is dominated by comparing the string names of the generated tables (a literal is encoded to
UTF-8 and compared byte by byte), and the kernel remembers those comparisons only within one check.  Read it through
`step_stable`, `sv_stable`, `init_stable`, `table_refines`. -/
theorem stable_eval :
    (∀ init ∈ inits, ∀ s ∈ allStates, ∀ r ∈ [true, false],
      (∀ i ∈ allInputs, (Model.Gem.Ctrl.step (stable init s r) i
          == (stable init (stableStep ⟨s, r⟩ i).1.st (stableStep ⟨s, r⟩ i).1.remote, (stableStep ⟨s, r⟩ i).2)) = true)
      ∧ (match sv1002 (stable init s r) with | .ok v => v == svValue s | .error _ => false) = true)
    ∧ (∀ init ∈ inits, ∀ r ∈ [true, false], (specDefault init).any (fun d =>
        Model.Gem.Ctrl.init init r == (stable init (specInit d r).1.st (specInit d r).1.remote, (specInit d r).2.map conc)) = true)
    ∧ (genInSpec = true ∧ specInGen = true ∧ pseudoOnly = true) := by
  decide +kernel

theorem step_stable {init : String} (hi : init ∈ inits) (s : S) (remote : Bool) (i : Input) :
    Model.Gem.Ctrl.step (stable init s remote) i
      = (stable init (stableStep ⟨s, remote⟩ i).1.st (stableStep ⟨s, remote⟩ i).1.remote, (stableStep ⟨s, remote⟩ i).2) := by
  obtain ⟨perState, _, _⟩ := stable_eval
  obtain ⟨steps, _⟩ := perState init hi s (mem_allStates s) remote (mem_bools remote)
  exact beq_iff_eq.mp (steps i (mem_allInputs i))

theorem sv_stable {init : String} (hi : init ∈ inits) (s : S) (remote : Bool) : sv1002 (stable init s remote) = .ok (svValue s) := by
  obtain ⟨perState, _, _⟩ := stable_eval
  obtain ⟨_, sv⟩ := perState init hi s (mem_allStates s) remote (mem_bools remote)
  split at sv
  · rename_i v hv; rw [hv, beq_iff_eq.mp sv]
  · cases sv

theorem init_stable {init : String} (hi : init ∈ inits) (remote : Bool) :
    ∃ d, specDefault init = some d ∧ Model.Gem.Ctrl.init init remote
      = (stable init (specInit d remote).1.st (specInit d remote).1.remote, (specInit d remote).2.map conc) := by
  obtain ⟨_, constructor, _⟩ := stable_eval
  obtain ⟨d, hd, h⟩ := (Option.any_eq_true _ _).mp (constructor init hi remote (mem_bools remote))
  exact ⟨d, hd, beq_iff_eq.mp h⟩

theorem table_refines : genInSpec = true ∧ specInGen = true ∧ pseudoOnly = true := by
  obtain ⟨_, _, table⟩ := stable_eval
  exact table

theorem run_stable {init : String} (hi : init ∈ inits) : ∀ (is : List Input) (s : SState),
    Model.Gem.Ctrl.run (stable init s.st s.remote) is = (stable init (stableRun s is).1.st (stableRun s is).1.remote, (stableRun s is).2)
  | [], _ => rfl
  | i :: is, s => by
    rw [Model.Gem.Ctrl.run, step_stable hi]
    simp only [run_stable hi is (stableStep _ i).1]
    rfl

theorem refused_spec {s : SState} {i : Input} (h : refused s.st i = true) : specStep s i = (s, []) := by
  have all : ∀ st ∈ allStates, ∀ remote ∈ [true, false], ∀ i ∈ allInputs,
      refused st i = true → specStep ⟨st, remote⟩ i = (⟨st, remote⟩, []) := by decide +kernel
  exact all s.st (mem_allStates _) s.remote (mem_bools _) i (mem_allInputs i) h

theorem stableStep_split : ∀ s ∈ allStates, ∀ r ∈ [true, false], ∀ p ∈ probeList,
    if (stableStep ⟨s, r⟩ .onlineBegin).2.any isRaised then stableStep ⟨s, r⟩ (.switchOnline p) = stableStep ⟨s, r⟩ .onlineBegin
    else stableStep ⟨s, r⟩ (.switchOnline p)
      = ((stableStep (stableStep ⟨s, r⟩ .onlineBegin).1 (.probe p)).1,
         (stableStep ⟨s, r⟩ .onlineBegin).2 ++ (stableStep (stableStep ⟨s, r⟩ .onlineBegin).1 (.probe p)).2) := by
  decide +kernel

theorem isRaised_conc (o : Spec.E30.Out) : isRaised (conc o) = false := by cases o <;> rfl

theorem visible_map_conc (l : List Spec.E30.Out) : visible (l.map conc) = l.map conc := by
  refine List.filter_eq_self.mpr fun o ho => ?_
  obtain ⟨x, _, rfl⟩ := List.mem_map.mp ho
  rw [isRaised_conc]; rfl

theorem stableStep_refines (s : SState) {i : Input} (hl : i ≠ .linkLost) :
    (stableStep s i).1 = (specStep s i).1 ∧ visible (stableStep s i).2 = (specStep s i).2.map conc ∧
      ((stableStep s i).2.any isRaised = true → (stableStep s i).1 = s ∧ (stableStep s i).2.length = 1 ∧ (specStep s i).2 = []) := by
  have he : stableStep s i = ((specStep s i).1, if refused s.st i then [.raised .wrongSource] else (specStep s i).2.map conc) := by
    cases i <;> first | rfl | exact absurd rfl hl
  rw [he]
  by_cases hf : refused s.st i = true
  · simp [hf, refused_spec hf, visible, isRaised]
  · simp [hf, visible_map_conc, isRaised_conc]

theorem filter_visible (p : Output → Bool) (hp : ∀ e, p (.raised e) = false) (outs : List Output) :
    outs.filter p = (visible outs).filter p := by
  rw [visible, List.filter_filter]
  refine List.filter_congr fun o _ => ?_
  cases o <;> simp [isRaised, hp]

end SecsModel.Proofs.Ctrl
