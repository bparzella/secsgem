import SecsModel.Proofs.SecsI
/-!
`Interleaving ls bs` (`bs` merges the block lists `ls`, each in its own order) is what "any interleaving" means in `C16.reassembly`.
Reassembly (`Protocol._add_message_block`) is *local in the system bytes*: what happens to the blocks of one transaction
depends only on the blocks of that transaction, however they are interleaved with others.  Fed alone, the blocks of one `split`
message come back as that message (`runK_blocks`, `runK_split`; `split_first`, `split_system` say what `from_block` and the key see of them).
-/
namespace SecsModel.Proofs.SecsIReasm
open SecsModel SecsModel.Gen SecsModel.Model.SecsI SecsModel.Proofs.SecsIHdr SecsModel.Proofs.SecsI

def keyOf (b : Block) : Int := b.header.system

/-- `bs` is an interleaving of the block lists `ls`: repeatedly take the next block of some list -/
inductive Interleaving : List (List Block) → List Block → Prop
  | done (ls : List (List Block)) : (∀ l ∈ ls, l = []) → Interleaving ls []
  | step (ls : List (List Block)) (i : Nat) (b : Block) (rest : List Block) (bs : List Block) :
      ls[i]? = some (b :: rest) → Interleaving (ls.set i rest) bs → Interleaving ls (b :: bs)

/-- taking the head off one of the lists only removes elements -/
theorem mem_of_mem_set_tail {ls : List (List Block)} {i : Nat} {b : Block} {rest : List Block} (hi : ls[i]? = some (b :: rest))
    {j : Nat} {x : Block} {l : List Block} (hl : (ls.set i rest)[j]? = some l) (hx : x ∈ l) : ∃ l', ls[j]? = some l' ∧ x ∈ l' := by
  rw [List.getElem?_set] at hl
  split at hl
  · rename_i hij
    subst hij
    split at hl
    · cases hl; exact ⟨_, hi, List.mem_cons_of_mem _ hx⟩
    · cases hl
  · exact ⟨l, hl, hx⟩

theorem Interleaving.filter {ls : List (List Block)} {bs : List Block} (hI : Interleaving ls bs) (p : Block → Bool) :
    ∀ {i : Nat} {l : List Block}, ls[i]? = some l → (∀ j l', ls[j]? = some l' → ∀ x ∈ l', p x = decide (j = i)) →
      bs.filter p = l := by
  induction hI with
  | done ls hall =>
    intro i l hl _
    rw [hall l (List.mem_of_getElem? hl)]; rfl
  | step ls j b rest bs hj _ ih =>
    intro i l hl hp
    have hp' : ∀ j' l', (ls.set j rest)[j']? = some l' → ∀ x ∈ l', p x = decide (j' = i) := fun j' l' hl' x hx => by
      obtain ⟨l'', h1, h2⟩ := mem_of_mem_set_tail hj hl' hx
      exact hp j' l'' h1 x h2
    rw [List.filter_cons, hp j _ hj b List.mem_cons_self]
    by_cases hji : j = i
    · subst hji
      rw [hj] at hl; cases hl
      rw [decide_eq_true rfl, if_pos rfl, ih (l := rest) (by rw [List.getElem?_set_self (List.getElem?_eq_some_iff.mp hj).1]) hp']
    · rw [decide_eq_false hji, if_neg Bool.false_ne_true, ih (by rw [List.getElem?_set_ne hji]; exact hl) hp']

theorem mem_of_interleaving : ∀ (ls : List (List Block)) (bs : List Block), Interleaving ls bs →
    ∀ b ∈ bs, ∃ l ∈ ls, b ∈ l := by
  intro ls bs hI
  induction hI with
  | done ls _ => intro b hb; cases hb
  | step ls j b rest bs hj _ ih =>
    intro x hx
    rcases List.mem_cons.mp hx with rfl | hx
    · exact ⟨_, List.mem_of_getElem? hj, List.mem_cons_self⟩
    · obtain ⟨l, hl, hxl⟩ := ih x hx
      obtain ⟨k, hk⟩ := List.getElem?_of_mem hl
      obtain ⟨l', h1, h2⟩ := mem_of_mem_set_tail hj hk hxl
      exact ⟨l', List.mem_of_getElem? h1, h2⟩

theorem lookup_nil (k : Int) : Pending.lookup [] k = none := rfl

theorem lookup_cons (e : Int × Message) (p : Pending) (k : Int) :
    Pending.lookup (e :: p) k = if e.1 = k then some e.2 else Pending.lookup p k := by
  simp only [Pending.lookup, List.find?_cons]
  split <;> simp_all

theorem lookup_append (p q : Pending) (k : Int) : Pending.lookup (p ++ q) k = (p.lookup k).or (q.lookup k) := by
  simp [Pending.lookup, List.find?_append, Option.map_or]

theorem lookup_erase (p : Pending) (k k' : Int) :
    (p.erase k).lookup k' = if k = k' then none else p.lookup k' := by
  rw [Pending.erase, Pending.lookup, List.find?_filter]
  split
  · subst k'; simp
  · rename_i h
    -- the filter's conjunct `!(e.1 == k)` follows from `e.1 == k'`, since `k ≠ k'`: both `find?` test the same thing
    congr 2
    funext e
    by_cases he : e.1 = k' <;> simp [he]
    exact fun c => h c.symm

theorem any_eq_isSome_lookup (p : Pending) (k : Int) : p.any (·.1 == k) = (p.lookup k).isSome := by
  induction p with
  | nil => rfl
  | cons e p ih => by_cases h : e.1 = k <;> simp [lookup_cons, h, ih]

theorem lookup_map_set (p : Pending) (k : Int) (m : Message) (k' : Int) :
    Pending.lookup (p.map (fun e => if e.1 == k then (k, m) else e)) k' =
      if k = k' then (p.lookup k).map (fun _ => m) else p.lookup k' := by
  induction p with
  | nil => simp [lookup_nil]
  | cons e p ih =>
    rw [List.map_cons, lookup_cons, lookup_cons, lookup_cons, ih]
    by_cases h : e.1 = k
    · subst h; by_cases h' : e.1 = k' <;> simp [h']
    · by_cases h' : k = k'
      · subst h'; simp [h]
      · simp [h, h']

theorem lookup_set (p : Pending) (k : Int) (m : Message) (k' : Int) :
    (p.set k m).lookup k' = if k = k' then some m else p.lookup k' := by
  rw [Pending.set, any_eq_isSome_lookup]
  split
  · rename_i h
    rw [lookup_map_set]
    split
    · obtain ⟨x, hx⟩ := Option.isSome_iff_exists.mp h
      rw [hx]; rfl
    · rfl
  · rename_i h
    rw [lookup_append, lookup_cons, lookup_nil]
    split
    · subst k'
      rw [Option.not_isSome_iff_eq_none.mp h]; rfl
    · simp

/-- what `_add_message_block` does to the entry of one key -/
def stepK (st : Option Message) (b : Block) : Option Message × Option Message :=
  if (extend st b).complete then (none, some (extend st b)) else (some (extend st b), none)

/-- `stepK` along the blocks of one key: the entry left at the end and the messages completed on the way -/
def runK : Option Message → List Block → Option Message × List Message
  | st, [] => (st, [])
  | st, b :: bs => ((runK (stepK st b).1 bs).1, (stepK st b).2.toList ++ (runK (stepK st b).1 bs).2)

/-- `reassemble` with every completed message tagged by the system bytes of the block that completed it -/
def reassembleK : Pending → List Block → Pending × List (Int × Message)
  | p, [] => (p, [])
  | p, b :: bs =>
    ((reassembleK (addBlock p b).1 bs).1,
     (match (addBlock p b).2 with | some m => [(keyOf b, m)] | none => []) ++ (reassembleK (addBlock p b).1 bs).2)

theorem reassembleK_fst : ∀ (bs : List Block) (p : Pending), (reassembleK p bs).1 = (reassemble p bs).1
  | [], _ => rfl
  | b :: bs, p => by simp only [reassembleK, reassemble]; exact reassembleK_fst bs _

theorem reassembleK_snd : ∀ (bs : List Block) (p : Pending), (reassembleK p bs).2.map (·.2) = (reassemble p bs).2
  | [], _ => rfl
  | b :: bs, p => by
    simp only [reassembleK, reassemble, List.map_append, reassembleK_snd bs]
    cases (addBlock p b).2 <;> rfl

theorem addBlock_eq (p : Pending) (b : Block) :
    addBlock p b = (match (stepK (p.lookup (keyOf b)) b).1 with
                    | none => p.erase (keyOf b)
                    | some m => p.set (keyOf b) m, (stepK (p.lookup (keyOf b)) b).2) := by
  unfold addBlock stepK keyOf
  by_cases hc : (extend (p.lookup b.header.system) b).complete <;> simp [hc]

theorem addBlock_lookup (p : Pending) (b : Block) (k : Int) :
    (addBlock p b).1.lookup k = if keyOf b = k then (stepK (p.lookup k) b).1 else p.lookup k := by
  rw [addBlock_eq]
  by_cases hk : keyOf b = k
  · subst hk
    rw [if_pos rfl]
    cases (stepK (p.lookup (keyOf b)) b).1 with
    | none => rw [lookup_erase, if_pos rfl]
    | some m => rw [lookup_set, if_pos rfl]
  · rw [if_neg hk]
    cases (stepK (p.lookup (keyOf b)) b).1 with
    | none => rw [lookup_erase, if_neg hk]
    | some m => rw [lookup_set, if_neg hk]

/-- **Locality.**  For every key `k`, the entry of `k` and the messages completed under `k` depend only on the sub-sequence
of blocks carrying `k` — for every interleaving with other transactions. -/
theorem reassemble_local : ∀ (bs : List Block) (p : Pending) (k : Int),
    ((reassembleK p bs).1.lookup k, ((reassembleK p bs).2.filter (·.1 == k)).map (·.2))
      = runK (p.lookup k) (bs.filter (keyOf · == k))
  | [], p, k => rfl
  | b :: bs, p, k => by
    have ih := reassemble_local bs (addBlock p b).1 k
    rw [addBlock_lookup] at ih
    rw [reassembleK, List.filter_cons, List.filter_append, List.map_append]
    by_cases hk : keyOf b = k
    · subst hk
      rw [if_pos rfl] at ih
      rw [if_pos (beq_self_eq_true _), runK, ← ih, addBlock_eq]
      cases (stepK (p.lookup (keyOf b)) b).2 <;> simp
    · rw [if_neg hk] at ih
      rw [if_neg (by simpa using hk), ← ih]
      cases (addBlock p b).2 <;> simp [hk]

theorem reassembleK_keys : ∀ (bs : List Block) (p : Pending), ∀ e ∈ (reassembleK p bs).2, ∃ b ∈ bs, e.1 = keyOf b
  | [], _, e, he => by simp [reassembleK] at he
  | b :: bs, p, e, he => by
    simp only [reassembleK, List.mem_append] at he
    rcases he with he | he
    · cases h : (addBlock p b).2 with
      | none => rw [h] at he; simp at he
      | some m => rw [h] at he; simp at he; exact ⟨b, List.mem_cons_self, by rw [he]⟩
    · obtain ⟨b', hb', hk⟩ := reassembleK_keys bs _ e he
      exact ⟨b', List.mem_cons_of_mem _ hb', hk⟩

/-- `from_block` of a first block that already is numbered 1 and fits one block is that block -/
theorem split_first (hd : Header) (data : Bytes) (h1 : hd.block = 1) (hlen : data.length ≤ 244) :
    split hd data false = [⟨hd, data⟩] := by
  rw [split_eq, dataBlocks_small data hlen]
  simp only [number, List.length_cons, List.length_nil]
  congr 1
  cases hd
  simp at h1
  simp [h1]

theorem complete_append_singleton (m : Message) (b : Block) : Message.complete (m ++ [b]) = b.header.last_block := by
  simp [Message.complete]

/-- A transaction's blocks fed one after another on top of what is there for their key (`st`): nothing completes before the
block with the end bit, and that block completes the whole list.  A block that opens an entry has to be numbered 1 and fit
one block, so that `from_block` leaves it as it is. -/
theorem runK_blocks : ∀ (bs : List Block) (st : Option Message),
    (st = none → ∀ b ∈ bs.head?, b.header.block = 1 ∧ b.data.length ≤ 244) →
    (∀ j (hj : j < bs.length), bs[j].header.last_block = decide (j + 1 = bs.length)) →
    runK st bs = if bs = [] then (st, []) else (none, [st.getD [] ++ bs])
  | [], _, _, _ => rfl
  | b :: bs, st, hfirst, hflags => by
    have hext : extend st b = st.getD [] ++ [b] := by
      cases st with
      | none => exact split_first _ _ (hfirst rfl b rfl).1 (hfirst rfl b rfl).2
      | some m => rfl
    have hb : b.header.last_block = decide (bs = []) := by
      rw [show b.header.last_block = _ from hflags 0 (Nat.zero_lt_succ _)]; simp
    have ih := runK_blocks bs (some (st.getD [] ++ [b])) (fun c => nomatch c) (fun j hj => by
      simpa using hflags (j + 1) (Nat.succ_lt_succ hj))
    rw [runK, stepK, hext, complete_append_singleton, hb, if_neg (List.cons_ne_nil _ _)]
    by_cases hs : bs = []
    · subst hs; rfl
    · rw [decide_eq_false hs, if_neg Bool.false_ne_true, ih, if_neg hs]
      simp

theorem runK_split (h : Header) (body : Bytes) : runK none (split h body) = (none, [split h body]) := by
  have hpos : 0 < (split h body).length := by rw [split_length]; omega
  rw [runK_blocks _ none ?_ (fun j hj => by rw [split_header h body j hj]), if_neg (List.ne_nil_of_length_pos hpos)]; rfl
  intro _ b hb
  obtain rfl : (split h body)[0] = b := by
    rw [List.head?_eq_getElem?, List.getElem?_eq_getElem hpos] at hb; exact Option.some.inj hb
  exact ⟨by rw [split_header h body 0 hpos]; rfl, split_data_le h body _ (List.getElem_mem hpos)⟩

theorem split_system (h : Header) (body : Bytes) : ∀ b ∈ split h body, keyOf b = h.system := by
  intro b hb
  obtain ⟨j, hj, rfl⟩ := List.getElem_of_mem hb
  rw [keyOf, split_header h body j hj]

end SecsModel.Proofs.SecsIReasm
