import SecsModel.Model.SfdlShape
import SecsModel.Proofs.SfdlTables
/-!
# Proofs.SfdlParse — validation and `_generate_from_sfdl` on the tokens of a well-formed definition

For a tree whose names are words, whose items are catalogued data item classes and whose lists are non-empty:
`validate (tokensOf d) = toks d` (the typed tokens), and `genFrom` turns them into the nested Python list `fmtOf d inh`
(look-ahead `peek(ahead=2)`, list name placed in front of a list whose first member is a data item, name handed down to the
members).  Fuel: `need d` suffices and is below the token count.  `procElem_ok`/`procLoop_ok` say what an accepted run of the
validation looks like on any input (used for the rejection theorems).
-/
namespace SecsModel.Proofs.Sfdl
open SecsModel SecsModel.Spec.Sfdl SecsModel.Model.Sfdl

def allKnown (d : Def) : Bool := (itemNames d).all classKnown

mutual
def toks : Def → List Tok
  | .item n => [⟨.openTag, lt⟩, ⟨.dataItem, n⟩, ⟨.closeTag, gt⟩]
  | .list nm ms => ⟨.openTag, lt⟩ :: ⟨.list, capL⟩ ::
      ((match nm with | none => [] | some x => [⟨.listName, x⟩]) ++ (toksL ms ++ [⟨.closeTag, gt⟩]))
def toksL : List Def → List Tok
  | [] => []
  | m :: ms => toks m ++ toksL ms
end

mutual
/-- Fuel that suffices for `procElem`/`genFrom` on the tokens of `d`.  The loops pass the same fuel to the element and to
themselves, so the depth would do; the sum over the tree is the simplest bound that stays below the token count (`need_le`). -/
def need : Def → Nat
  | .item _ => 1
  | .list _ ms => 1 + needL ms
def needL : List Def → Nat
  | [] => 1
  | m :: ms => 1 + need m + needL ms
end

theorem need_pos : ∀ d : Def, 0 < need d
  | .item _ => by rw [need]; omega
  | .list _ _ => by rw [need]; omega

theorem needL_pos : ∀ ms : List Def, 0 < needL ms
  | [] => by rw [needL]; omega
  | _ :: _ => by rw [needL]; omega

theorem allKnown_item {n : Name} (h : allKnown (.item n) = true) : classKnown n = true := by
  simpa [allKnown, itemNames] using h

theorem allKnown_list {nm : Option Name} {ms : List Def} (h : allKnown (.list nm ms) = true) :
    (itemNamesL ms).all classKnown = true := by
  simpa [allKnown, itemNames] using h

theorem allKnownL_cons {m : Def} {ms : List Def} (h : (itemNamesL (m :: ms)).all classKnown = true) :
    allKnown m = true ∧ (itemNamesL ms).all classKnown = true := by
  simpa [allKnown, itemNamesL, List.all_append] using h

theorem toks_list (nm : Option Name) (ms : List Def) :
    toks (.list nm ms) =
      ⟨.openTag, lt⟩ :: ⟨.list, capL⟩ :: (nm.toList.map (⟨.listName, ·⟩) ++ (toksL ms ++ [⟨.closeTag, gt⟩])) := by
  cases nm <;> rfl

theorem tokensOfList_head (ms : List Def) (rest : List Name) :
    ∃ k tl, tokensOfList ms ++ gt :: rest = k :: tl ∧ inLtGt k = true := by
  cases ms with
  | nil => exact ⟨gt, rest, rfl, rfl⟩
  | cons m ms =>
    obtain ⟨tl, h⟩ := tokensOf_head m
    exact ⟨lt, tl ++ (tokensOfList ms ++ gt :: rest), by rw [tokensOfList, h, List.append_assoc]; rfl, rfl⟩

theorem word_not_ltgt {x : Name} (h : isWord x = true) : inLtGt x = false := by
  obtain ⟨hne, hall⟩ := isWord_parts h
  cases x with
  | nil => exact absurd rfl hne
  | cons c t =>
    simp only [List.all_cons, Bool.and_eq_true] at hall
    have hc := hall.1
    have h1 : c ≠ '<' := by intro e; subst e; exact absurd hc (by decide)
    have h2 : c ≠ '>' := by intro e; subst e; exact absurd hc (by decide)
    simp [inLtGt, lt, gt, h1, h2]

theorem procElem_zero (es : List Name) : procElem 0 es = .error .other := rfl

theorem procLoop_zero (es : List Name) : procLoop 0 es = .error .other := rfl

theorem procClose_gt (rest : List Name) : procClose (gt :: rest) = .ok (⟨.closeTag, gt⟩, rest) := rfl

theorem procClose_ok {es r : List Name} {c : Tok} (h : procClose es = .ok (c, r)) : es = gt :: r := by
  unfold procClose at h
  split at h
  · cases h
  · split at h
    · cases h
    · rename_i hc
      cases h
      exact congrArg (· :: _) (by simpa using hc)

/-- An accepted element starts `< name`.  After a name other than `L` comes `>`; after `L` the next word is the list's name
unless it is a bracket, then the members and `>`.  (Every other branch of `procElem` is an error.) -/
theorem procElem_ok {f : Nat} {es r : List Name} {ts : List Tok} (h : procElem (f + 1) es = .ok (ts, r)) :
    ∃ n k tl, es = lt :: n :: k :: tl ∧
      ((n = capL ∧ ∃ ts1, procLoop f (if inLtGt k then k :: tl else tl) = .ok (ts1, gt :: r))
        ∨ (n ≠ capL ∧ attrKnown n = true ∧ k :: tl = gt :: r)) := by
  match es, h with
  | [], h => simp [procElem] at h
  | [_], h => simp [procElem] at h
  | [_, _], h => simp [procElem, procClose] at h
  | o :: n :: k :: tl, h =>
    rw [procElem] at h
    split at h
    · cases h
    · rename_i ho
      refine ⟨n, k, tl, by rw [show o = lt by simpa using ho], ?_⟩
      split at h
      · rename_i hn
        split at h
        · cases h
        · rename_i ha
          split at h
          · cases h
          · rename_i hc
            cases h
            exact Or.inr ⟨by simpa using hn, by simpa using ha, procClose_ok hc⟩
      · rename_i hn
        simp only at h
        split at h
        · cases h
        · rename_i ts1 _ hl
          split at h
          · cases h
          · rename_i hc
            cases h
            rw [procClose_ok hc] at hl
            refine Or.inl ⟨by simpa using hn, ts1, ?_⟩
            cases hk : inLtGt k <;> simpa [hk] using hl

theorem procLoop_ok {f : Nat} {es r : List Name} {ts : List Tok} (h : procLoop (f + 1) es = .ok (ts, r)) :
    (∃ tl, es = gt :: tl ∧ r = es)
    ∨ (∃ ts1 es1 ts2, procElem f es = .ok (ts1, es1) ∧ procLoop f es1 = .ok (ts2, r)) := by
  match es, h with
  | [], h => simp [procLoop] at h
  | e :: tl, h =>
    rw [procLoop] at h
    split at h
    · cases h
    · split at h
      · rename_i hg
        cases h
        exact Or.inl ⟨tl, by rw [beq_iff_eq.mp hg], rfl⟩
      · split at h
        · cases h
        · rename_i ts1 es1 he
          split at h
          · cases h
          · rename_i ts2 _ hl
            cases h
            exact Or.inr ⟨ts1, es1, ts2, he, hl⟩

mutual
theorem procElem_toks : ∀ (d : Def) (f : Nat) (rest : List Name), wordsOk d = true → allKnown d = true → need d ≤ f →
    procElem f (tokensOf d ++ rest) = .ok (toks d, rest)
  | d, 0, _, _, _, hf => absurd hf (Nat.not_le.mpr (need_pos d))
  | .item n, f + 1, rest, _, hk, _ => by
    obtain ⟨hattr, -, hnotL⟩ := classKnown_facts (allKnown_item hk)
    rw [tokensOf, toks]
    simp [procElem, hattr, hnotL, procClose_gt]
  | .list nm ms, f + 1, rest, hw, hk, hf => by
    obtain ⟨hx, hms⟩ := wordsOk_list.mp hw
    have hl := procLoop_toks ms f rest hms (allKnown_list hk) (by rw [need] at hf; omega)
    obtain ⟨k, tl, hb, hk'⟩ := tokensOfList_head ms rest
    rw [tokensOf_list, toks_list]
    rw [hb] at hl ⊢
    cases nm with
    | none => simp [procElem, hk', hl, procClose_gt]
    | some x => simp [procElem, word_not_ltgt (hx x rfl), hl, procClose_gt]
theorem procLoop_toks : ∀ (ms : List Def) (f : Nat) (rest : List Name), wordsOkL ms = true →
    (itemNamesL ms).all classKnown = true → needL ms ≤ f →
    procLoop f (tokensOfList ms ++ gt :: rest) = .ok (toksL ms, gt :: rest)
  | ms, 0, _, _, _, hf => absurd hf (Nat.not_le.mpr (needL_pos ms))
  | [], f + 1, rest, _, _, _ => rfl
  | m :: ms, f + 1, rest, hw, hk, hf => by
    rw [needL] at hf
    obtain ⟨hm, hms⟩ := wordsOkL_cons.mp hw
    obtain ⟨hk1, hk2⟩ := allKnownL_cons hk
    have h1 := procElem_toks m f (tokensOfList ms ++ gt :: rest) hm hk1 (by omega)
    have h2 := procLoop_toks ms f rest hms hk2 (by omega)
    obtain ⟨tl, htl⟩ := tokensOf_head m
    rw [tokensOfList, toksL, List.append_assoc]
    rw [htl] at h1 ⊢
    simp only [List.cons_append] at h1 ⊢
    simp [procLoop, inLtGt, h1, h2]
end

mutual
theorem need_le : ∀ d : Def, need d + 1 ≤ (tokensOf d).length
  | .item n => by simp [need, tokensOf]
  | .list nm ms => by
    have := needL_le ms
    cases nm <;> simp [need, tokensOf] <;> omega
theorem needL_le : ∀ ms : List Def, needL ms ≤ 1 + (tokensOfList ms).length
  | [] => by simp [needL, tokensOfList]
  | m :: ms => by
    have h1 := need_le m
    have h2 := needL_le ms
    simp only [needL, tokensOfList, List.length_append]
    omega
end

theorem validate_tokensOf (d : Def) (hw : wordsOk d = true) (hk : allKnown d = true) :
    validate (tokensOf d) = .ok (toks d) := by
  have h := procElem_toks d (2 * (tokensOf d).length + 2) [] hw hk (by have := need_le d; omega)
  rw [List.append_nil] at h
  simp [validate, h]

def isItem : Def → Bool
  | .item _ => true
  | .list _ _ => false

def firstIsItem : List Def → Bool
  | m :: _ => isItem m
  | [] => false

mutual
/-- The nested Python list `_generate_from_sfdl(tokenizer, token_name)` returns for a definition; `inh` is `token_name`, the name
handed down by the enclosing list.  A list shows its own name, else the inherited one, but hands down to its members only its
*own* name (`fmtOfL ms nm`): an inherited name reaches one level. -/
def fmtOf : Def → Option Name → Fmt
  | .item n, _ => .cls n
  | .list nm ms, inh =>
    .list ((match (match nm with | some x => some x | none => inh) with
            | some t => if firstIsItem ms && !t.isEmpty then [Fmt.str t] else []
            | none => []) ++ fmtOfL ms nm)
def fmtOfL : List Def → Option Name → List Fmt
  | [], _ => []
  | m :: ms, key => fmtOf m key :: fmtOfL ms key
end

theorem upper_capL : upper capL = capL := by decide

theorem toks_two (m : Def) (hk : allKnown m = true) :
    ∃ t2 tl, toks m = ⟨.openTag, lt⟩ :: t2 :: tl ∧ (t2.value != capL) = isItem m := by
  cases m with
  | item n =>
    obtain ⟨-, -, hnotL⟩ := classKnown_facts (allKnown_item hk)
    exact ⟨⟨.dataItem, n⟩, _, by rw [toks], hnotL⟩
  | list nm ms => exact ⟨⟨.list, capL⟩, _, toks_list nm ms, rfl⟩

mutual
theorem genFrom_toks : ∀ (d : Def) (f : Nat) (rest : List Tok) (inh : Option Name), wordsOk d = true → allKnown d = true →
    nonEmptyLists d = true → need d ≤ f → genFrom f (toks d ++ rest) inh = .ok (fmtOf d inh, rest)
  | d, 0, _, _, _, _, _, hf => absurd hf (Nat.not_le.mpr (need_pos d))
  | .item n, f + 1, rest, inh, _, hk, _, _ => by
    obtain ⟨hattr, hupper, hnotL⟩ := classKnown_facts (allKnown_item hk)
    rw [toks, fmtOf]
    simp [genFrom, genItem, hattr, hupper, hnotL, allKnown_item hk]
  | .list nm [], f + 1, rest, inh, _, _, hne, _ => by
    simp [nonEmptyLists] at hne
  | .list nm (m :: ms), f + 1, rest, inh, hw, hk, hne, hf => by
    obtain ⟨hx, hms⟩ := wordsOk_list.mp hw
    simp [nonEmptyLists] at hne
    have hl := genLoop_toks (m :: ms) f rest nm hms (allKnown_list hk) hne (by rw [need] at hf; omega)
    -- `peek(ahead=2)` sees the second token of the first member: `L` exactly when that member is a list (`hv`)
    obtain ⟨t2, tl, ht, hv⟩ := toks_two m (allKnownL_cons (allKnown_list hk)).1
    rw [toksL, ht] at hl
    rw [toks_list, toksL, ht]
    simp only [List.cons_append, List.append_assoc] at hl ⊢
    cases nm with
    | none =>
      cases inh <;> simp [fmtOf, genFrom, upper_capL, inLtGt, hl, hv, firstIsItem]
    | some x =>
      simp [fmtOf, genFrom, upper_capL, word_not_ltgt (hx x rfl), hl, hv, firstIsItem]
theorem genLoop_toks : ∀ (ms : List Def) (f : Nat) (rest : List Tok) (key : Option Name), wordsOkL ms = true →
    (itemNamesL ms).all classKnown = true → nonEmptyListsL ms = true → needL ms ≤ f →
    genLoop f (toksL ms ++ ⟨.closeTag, gt⟩ :: rest) key = .ok (fmtOfL ms key, rest)
  | ms, 0, _, _, _, _, _, hf => absurd hf (Nat.not_le.mpr (needL_pos ms))
  | [], f + 1, rest, key, _, _, _, _ => rfl
  | m :: ms, f + 1, rest, key, hw, hk, hne, hf => by
    rw [needL] at hf
    obtain ⟨hm, hms⟩ := wordsOkL_cons.mp hw
    simp [nonEmptyListsL] at hne
    obtain ⟨hk1, hk2⟩ := allKnownL_cons hk
    have h1 := genFrom_toks m f (toksL ms ++ ⟨.closeTag, gt⟩ :: rest) key hm hk1 hne.1 (by omega)
    have h2 := genLoop_toks ms f rest key hms hk2 hne.2 (by omega)
    obtain ⟨t2, tl, ht, _⟩ := toks_two m hk1
    rw [toksL, fmtOfL, List.append_assoc]
    rw [ht] at h1 ⊢
    simp only [List.cons_append] at h1 ⊢
    simp [genLoop, inLtGt, h1, h2]
end

mutual
theorem toks_values : ∀ d : Def, (toks d).map (·.value) = tokensOf d
  | .item n => by simp [toks, tokensOf]
  | .list nm ms => by cases nm <;> simp [toks, tokensOf, toksL_values ms]
theorem toksL_values : ∀ ms : List Def, (toksL ms).map (·.value) = tokensOfList ms
  | [] => by simp [toksL, tokensOfList]
  | m :: ms => by simp [toksL, tokensOfList, toks_values m, toksL_values ms]
end

end SecsModel.Proofs.Sfdl
