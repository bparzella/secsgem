import SecsModel.Model.Ctrl
/-! Small shared definitions of the generated-machine obligations (kept apart so that `Proofs.SMGen` and `Proofs.Ctrl`, both
kernel-evaluation heavy, build in parallel). -/
namespace SecsModel.Proofs.SMGen
open SecsModel.Model.SM SecsModel.Model.Gem.Ctrl

/-- the state in which the machine rests in `c` with exact flags -/
def canon (m : MDef) (c : Nat) : St := { cur := c, active := canonFlags m c, log := [] }

/-- the probe outcomes (`none` = still outstanding) -/
def probes : List (Option Probe) := [none, some .hostAnswers, some .hostSilent, some .hostAborts, some .notCommunicating]
/-- the documented values of `initial_control_state` -/
def inits : List String := ["EQUIPMENT_OFFLINE", "ATTEMPT_ONLINE", "HOST_OFFLINE", "ONLINE"]

end SecsModel.Proofs.SMGen
