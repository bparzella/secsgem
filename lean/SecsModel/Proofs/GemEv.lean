import SecsModel.Model.GemEv
import SecsModel.Proofs.GemBase
/-! Lemmas about `Model.GemEv` (C12): the apply loops are the declarative effects of `Spec.EventReports`, the verdicts of the
pre-check loops, and `Inv` kept by the three effects. -/
namespace SecsModel.Proofs.Gem.Ev
open SecsModel SecsModel.Model.Gem SecsModel.Model.Gem.Ev SecsModel.Spec.EventReports SecsModel.Proofs.Gem

theorem removeAllGo_eq (x : Id) : ∀ (n : Nat) (l : List Id), l.count x ≤ n → removeAllGo x n l = l.filter (fun y => !(y = x))
  | 0, l, h => by
    have : x ∉ l := by
      intro hm
      have := List.count_pos_iff.mpr hm
      omega
    simp [removeAllGo, filter_of_not_mem x l this]
  | n + 1, l, h => by
    simp only [removeAllGo]
    split
    · rename_i hm
      have hc : (l.erase x).count x ≤ n := by
        rw [List.count_erase_self]; omega
      rw [removeAllGo_eq x n _ hc, filter_erase_self]
    · rename_i hm
      exact (filter_of_not_mem x l hm).symm

theorem removeAll_eq (x : Id) (l : List Id) : removeAll x l = l.filter (fun y => !(y = x)) :=
  removeAllGo_eq x _ l List.count_le_length

/-! `Spec.EventReports` writes `AList.erase l k` out as `l.filter (fun e => !(e.1 = k))`; the two are the same term after
unfolding, which the `show`s and `exact`s below rely on. -/

theorem unlinkReport_eq (r : Id) (e : Id × (List Id × Bool)) :
    unlinkReport r e =
      (let rs' := e.2.1.filter (fun x => !(x = r))
       if r ∈ e.2.1 ∧ rs' = [] then none else some (e.1, (rs', e.2.2))) := by
  unfold unlinkReport
  by_cases hm : r ∈ e.2.1
  · simp only [hm, if_true, removeAll_eq, true_and, List.isEmpty_iff]
  · simp only [hm, if_false, false_and, filter_of_not_mem r e.2.1 hm]

theorem apply33_eq (c : Config) (r : RptReq) : apply33 c r = s2f33Entry c r := by
  obtain ⟨r, vids⟩ := r
  cases vids with
  | nil =>
    show Config.mk _ _ = Config.mk _ _
    rw [AList.erase_guarded, show unlinkReport r = _ from funext (unlinkReport_eq r)]
    rfl
  | cons v vs => rfl

theorem foldl_append_singletons (l rs : List Id) : rs.foldl (fun l r => l ++ [r]) l = l ++ rs := by
  induction rs generalizing l with
  | nil => simp
  | cons a t ih => simp [ih]

theorem apply35_eq (c : Config) (e : LinkReq) : apply35 c e = s2f35Entry c e := by
  obtain ⟨ce, rs⟩ := e
  cases rs with
  | nil =>
    show (if AList.contains c.links ce then { c with links := AList.erase c.links ce } else { c with links := c.links })
      = { c with links := AList.erase c.links ce }
    rw [← apply_ite (fun l => ({ c with links := l } : Config)), AList.erase_guarded]
  | cons r rs =>
    show (match c.links.lookup ce with | some (linked, en) => _ | none => _) = linkEvent c ce (r :: rs)
    unfold linkEvent
    cases hl : AList.lookup c.links ce with
    | none => simp only [AList.set_of_lookup_none hl]
    | some p => simp only [foldl_append_singletons]

theorem s2f33_checked (cfg : Cfg) (s : St) (data : List RptReq) :
    Checked (pre33 cfg s.conf 0 data) s ({ s with conf := s2f33Effect s.conf data }, .code 0) (s2f33 cfg s data) := by
  have h : s2f33 cfg s data = guarded (pre33 cfg s.conf 0 data) s ({ s with conf := s2f33Effect s.conf data }, .code 0) := by
    unfold s2f33 s2f33Effect
    rw [show apply33 = s2f33Entry from funext fun c => funext (apply33_eq c)]
    cases data <;> rfl
  exact h ▸ guarded_checked ..

theorem s2f35_checked (cfg : Cfg) (s : St) (data : List LinkReq) :
    Checked (pre35 cfg s.conf 0 data) s ({ s with conf := s2f35Effect s.conf data }, .code 0) (s2f35 cfg s data) := by
  have h : s2f35 cfg s data = guarded (pre35 cfg s.conf 0 data) s ({ s with conf := s2f35Effect s.conf data }, .code 0) := by
    unfold s2f35 s2f35Effect
    rw [show apply35 = s2f35Entry from funext fun c => funext (apply35_eq c)]
    rfl
  exact h ▸ guarded_checked ..

theorem pre33Vids_verdict (cfg : Cfg) : ∀ (vs : List Id) (acc d : Nat), pre33Vids cfg acc vs = .ok d →
    (d = acc ∧ ∀ v ∈ vs, cfg.known v = true) ∨ (d ≠ 0 ∧ ∃ v ∈ vs, d = 4 ∧ cfg.known v = false) :=
  verdict (by simp [pre33Vids]) fun acc v vs d h => by
    cases hh : v.hashable with
    | false => simp [pre33Vids, hh] at h
    | true =>
      simp only [pre33Vids, hh, if_true] at h
      refine ⟨_, h, ?_⟩
      cases hk : cfg.known v
      · exact .inr ⟨nofun, rfl, rfl⟩
      · exact .inl ⟨rfl, rfl⟩

theorem pre33_verdict (cfg : Cfg) (c : Config) : ∀ (data : List RptReq) (acc d : Nat), pre33 cfg c acc data = .ok d →
    (d = acc ∧ ∀ r ∈ data, ¬ redefines c r ∧ ¬ unknownVid cfg.known r)
    ∨ (d ≠ 0 ∧ ∃ r ∈ data, (d = 3 ∧ redefines c r) ∨ (d = 4 ∧ unknownVid cfg.known r)) :=
  verdict (by simp [pre33]) fun acc r rs d h => by
    cases hh : r.rptid.hashable with
    | false => simp [pre33, hh] at h
    | true =>
      cases hr : (c.reports.contains r.rptid && !r.vids.isEmpty) with
      | true =>
        simp only [pre33, hh, hr, if_true] at h
        simp only [Bool.and_eq_true, Bool.not_eq_true', List.isEmpty_eq_false_iff] at hr
        exact ⟨3, h, .inr ⟨nofun, .inl ⟨rfl, hr.2, AList.contains_iff.mp hr.1⟩⟩⟩
      | false =>
        cases hv : pre33Vids cfg acc r.vids with
        | error e => simp [pre33, hh, hr, hv] at h
        | ok acc' =>
          simp only [pre33, hh, hr, hv, if_true, Bool.false_eq_true, if_false] at h
          refine ⟨acc', h, ?_⟩
          rcases pre33Vids_verdict cfg _ _ _ hv with ⟨rfl, hk⟩ | ⟨hd, v, hvm, rfl, hk⟩
          · refine .inl ⟨rfl, fun ⟨hne, hm⟩ => ?_, fun ⟨v, hvm, hf⟩ => by simp [hk v hvm] at hf⟩
            simp [AList.contains_iff.mpr hm, hne] at hr
          · exact .inr ⟨hd, .inr ⟨rfl, v, hvm, hk⟩⟩

theorem pre35Rpts_verdict (cf : Config) (c : Id) : ∀ (rs : List Id) (acc d : Nat), pre35Rpts cf c acc rs = .ok d →
    (d = acc ∧ ∀ r ∈ rs, r ∈ cf.reports.keys ∧ ∀ linked en, cf.links.lookup c = some (linked, en) → r ∉ linked)
    ∨ (d ≠ 0 ∧ ∃ r ∈ rs, (d = 3 ∧ ∃ linked en, cf.links.lookup c = some (linked, en) ∧ r ∈ linked) ∨ (d = 5 ∧ r ∉ cf.reports.keys)) :=
  verdict (by simp [pre35Rpts]) fun acc r rs d h => by
    cases hs : r.scalar with
    | false => simp [pre35Rpts, hs] at h
    | true =>
      simp only [pre35Rpts, hs, if_true] at h
      refine ⟨_, h, ?_⟩
      cases hc : cf.reports.contains r
      · exact .inr ⟨nofun, .inr ⟨rfl, fun hm => by simp [AList.contains_iff.mpr hm] at hc⟩⟩
      · have hm := AList.contains_iff.mp hc
        cases hl : cf.links.lookup c with
        | none => exact .inl ⟨rfl, hm, nofun⟩
        | some p =>
          obtain ⟨linked, en⟩ := p
          by_cases hin : r ∈ linked
          · exact .inr ⟨by simp [hin], .inl ⟨by simp [hin], linked, en, rfl, hin⟩⟩
          · exact .inl ⟨by simp [hin], hm, fun l e he => by cases he; exact hin⟩

theorem pre35_verdict (cfg : Cfg) (cf : Config) : ∀ (data : List LinkReq) (acc d : Nat), pre35 cfg cf acc data = .ok d →
    (d = acc ∧ ∀ e ∈ data, ¬ alreadyLinked cf e ∧ ¬ unknownCeid cfg.ceids e ∧ ¬ unknownRptid cf e)
    ∨ (d ≠ 0 ∧ ∃ e ∈ data, (d = 3 ∧ alreadyLinked cf e) ∨ (d = 4 ∧ unknownCeid cfg.ceids e) ∨ (d = 5 ∧ unknownRptid cf e)) :=
  verdict (by simp [pre35]) fun acc e es d h => by
    cases hs : e.ceid.scalar with
    | false => simp [pre35, hs] at h
    | true =>
      cases hv : pre35Rpts cf e.ceid (if e.ceid ∈ cfg.ceids then acc else 4) e.rptids with
      | error x => simp [pre35, hs, hv] at h
      | ok acc' =>
        simp only [pre35, hs, hv, if_true] at h
        refine ⟨acc', h, ?_⟩
        rcases pre35Rpts_verdict cf _ _ _ _ hv with ⟨rfl, hz⟩ | ⟨hd, r, hr, hq⟩
        · by_cases hm : e.ceid ∈ cfg.ceids
          · refine .inl ⟨by simp [hm], ?_, fun hu => hu hm, fun ⟨r, hr, hk⟩ => hk (hz r hr).1⟩
            rintro ⟨linked, en, hl, r, hr, hin⟩
            exact (hz r hr).2 linked en hl hin
          · exact .inr ⟨by simp [hm], .inr (.inl ⟨by simp [hm], hm⟩)⟩
        · refine .inr ⟨hd, ?_⟩
          rcases hq with ⟨h3, linked, en, hl, hin⟩ | ⟨h5, hk⟩
          · exact .inl ⟨h3, linked, en, hl, r, hr, hin⟩
          · exact .inr (.inr ⟨h5, r, hr, hk⟩)

theorem pre33_zero {cfg : Cfg} {c : Config} {data : List RptReq} {acc : Nat} (h : pre33 cfg c acc data = .ok 0) :
    acc = 0 ∧ ∀ r ∈ data, ¬ redefines c r ∧ ¬ unknownVid cfg.known r :=
  verdict_zero (pre33_verdict cfg c data acc 0 h) rfl

theorem pre35_zero {cfg : Cfg} {cf : Config} {data : List LinkReq} {acc : Nat} (h : pre35 cfg cf acc data = .ok 0) :
    acc = 0 ∧ ∀ e ∈ data, ¬ alreadyLinked cf e ∧ ¬ unknownCeid cfg.ceids e ∧ ¬ unknownRptid cf e :=
  verdict_zero (pre35_verdict cfg cf data acc 0 h) rfl

def VidsKnown (cfg : Cfg) (c : Config) : Prop := ∀ e ∈ c.reports, ∀ v ∈ e.2, cfg.known v = true

def Inv (cfg : Cfg) (s : St) : Prop := Integrity s.conf ∧ VidsKnown cfg s.conf

theorem integrity_define {c : Config} (h : Integrity c) (r : Id) (vids : List Id) : Integrity (defineReport c r vids) := by
  intro e he x hx
  exact AList.keys_set.mpr (Or.inl (h e he x hx))

theorem integrity_delete {c : Config} (h : Integrity c) (r : Id) : Integrity (deleteReport c r) := by
  intro e' he' x hx
  simp only [deleteReport, List.mem_filterMap] at he'
  obtain ⟨e, he, hf⟩ := he'
  split at hf
  · cases hf
  · cases hf
    simp only [List.mem_filter] at hx
    have hne : x ≠ r := by simpa using hx.2
    exact AList.keys_erase.mpr ⟨h e he x hx.1, hne⟩

theorem integrity_unlink {c : Config} (h : Integrity c) (ce : Id) : Integrity (unlinkEvent c ce) := by
  intro e he x hx
  simp only [unlinkEvent, List.mem_filter] at he
  exact h e he.1 x hx

theorem reports_linkEvent (c : Config) (ce : Id) (rs : List Id) : (linkEvent c ce rs).reports = c.reports := by
  unfold linkEvent; split <;> rfl

theorem integrity_link {c : Config} (h : Integrity c) (ce : Id) (rs : List Id) (hrs : ∀ r ∈ rs, r ∈ c.reports.keys) :
    Integrity (linkEvent c ce rs) := by
  intro e he x hx
  rw [reports_linkEvent]
  unfold linkEvent at he
  cases hl : AList.lookup c.links ce with
  | none =>
    simp only [hl, List.mem_append, List.mem_singleton] at he
    rcases he with he | he
    · exact h e he x hx
    · subst he; exact hrs x hx
  | some p =>
    obtain ⟨old, en⟩ := p
    simp only [hl] at he
    rcases AList.mem_set he with he | he
    · exact h e he x hx
    · subst he
      rcases List.mem_append.mp hx with hx | hx
      · exact h _ (AList.lookup_some_mem hl) x hx
      · exact hrs x hx

theorem vids_define {cfg : Cfg} {c : Config} (h : VidsKnown cfg c) (r : Id) (vids : List Id) (hv : ∀ v ∈ vids, cfg.known v = true) :
    VidsKnown cfg (defineReport c r vids) := by
  intro e he v hv'
  rcases AList.mem_set he with he | he
  · exact h e he v hv'
  · subst he; exact hv v hv'

theorem vids_delete {cfg : Cfg} {c : Config} (h : VidsKnown cfg c) (r : Id) : VidsKnown cfg (deleteReport c r) := by
  intro e he v hv
  simp only [deleteReport, List.mem_filter] at he
  exact h e he.1 v hv

theorem inv_s2f33 {cfg : Cfg} {s : St} (h : Inv cfg s) (data : List RptReq) (hk : ∀ r ∈ data, ¬ unknownVid cfg.known r) :
    Inv cfg { s with conf := s2f33Effect s.conf data } := by
  show Integrity (s2f33Effect s.conf data) ∧ VidsKnown cfg (s2f33Effect s.conf data)
  unfold s2f33Effect
  split
  · exact ⟨nofun, nofun⟩
  · refine List.foldlRecOn (motive := fun c' => Integrity c' ∧ VidsKnown cfg c') data s2f33Entry h
      fun c' ⟨hi', hv'⟩ r hr => ?_
    unfold s2f33Entry
    split
    · exact ⟨integrity_delete hi' _, vids_delete hv' _⟩
    · refine ⟨integrity_define hi' _ _, vids_define hv' _ _ fun v hvm => ?_⟩
      cases h : cfg.known v
      · exact absurd ⟨v, hvm, h⟩ (hk r hr)
      · rfl

theorem reports_s2f35Entry (c : Config) (e : LinkReq) : (s2f35Entry c e).reports = c.reports := by
  unfold s2f35Entry unlinkEvent linkEvent
  split
  · rfl
  · split <;> rfl

theorem reports_s2f35Effect (c : Config) (data : List LinkReq) : (s2f35Effect c data).reports = c.reports :=
  List.foldlRecOn (motive := fun c' => c'.reports = c.reports) data s2f35Entry rfl
    fun c' h e _ => (reports_s2f35Entry c' e).trans h

theorem inv_s2f35 {cfg : Cfg} {s : St} (h : Inv cfg s) (data : List LinkReq) (hk : ∀ e ∈ data, ¬ unknownRptid s.conf e) :
    Inv cfg { s with conf := s2f35Effect s.conf data } := by
  refine ⟨?_, fun e he => h.2 e (reports_s2f35Effect s.conf data ▸ he)⟩
  -- along the loop the reports stay those of `s`, so "every RPTID of the request is defined" (`hk`) stays usable
  suffices h' : (s2f35Effect s.conf data).reports = s.conf.reports ∧ Integrity (s2f35Effect s.conf data) from h'.2
  refine List.foldlRecOn (motive := fun c' => c'.reports = s.conf.reports ∧ Integrity c') data s2f35Entry ⟨rfl, h.1⟩
    fun c' ⟨hr', hi'⟩ e he => ⟨(reports_s2f35Entry c' e).trans hr', ?_⟩
  unfold s2f35Entry
  split
  · exact integrity_unlink hi' _
  · exact integrity_link hi' _ _ fun r hr => hr' ▸ Decidable.not_not.mp fun hn => hk e he ⟨r, hr, hn⟩

theorem setEnabled_lists (links : AList (List Id × Bool)) (c : Id) (ceed : Bool) :
    (setEnabled links c ceed).map (·.2.1) = links.map (·.2.1) := by
  rw [setEnabled, List.map_map]
  refine List.map_congr_left fun e _ => ?_
  simp only [Function.comp]
  split <;> rfl

theorem setCeLoop_lists (ceed : Bool) : ∀ (cs : List Id) (links : AList (List Id × Bool)) (res : Bool),
    (setCeLoop ceed links res cs).1.map (·.2.1) = links.map (·.2.1)
  | [], _, _ => rfl
  | c :: cs, links, res => by
    simp only [setCeLoop]
    split
    · split
      · exact (setCeLoop_lists ceed cs _ _).trans (setEnabled_lists links c ceed)
      · exact setCeLoop_lists ceed cs _ _
    · rfl

theorem s2f37_lists (s : St) (ceed : Bool) (ceids : List Id) : (s2f37 s ceed ceids).1.conf.reports = s.conf.reports
    ∧ (s2f37 s ceed ceids).1.conf.links.map (·.2.1) = s.conf.links.map (·.2.1) := by
  unfold s2f37
  split
  · exact ⟨rfl, by simp only [List.map_map]; rfl⟩
  · exact ⟨rfl, setCeLoop_lists ceed ceids s.conf.links true⟩

theorem integrity_of_same_lists {c : Config} (h : Integrity c) (links' : AList (List Id × Bool))
    (hl : ∀ e' ∈ links', ∃ e ∈ c.links, e'.2.1 = e.2.1) : Integrity { c with links := links' } := by
  intro e' he' x hx
  obtain ⟨e, he, heq⟩ := hl e' he'
  exact h e he x (heq ▸ hx)

/-- `Inv` reads of the links only their report lists, which S2F37 leaves alone -/
theorem inv_s2f37 {cfg : Cfg} {s : St} (h : Inv cfg s) (ceed : Bool) (ceids : List Id) : Inv cfg (s2f37 s ceed ceids).1 := by
  obtain ⟨hreports, hlists⟩ := s2f37_lists s ceed ceids
  have hsame : ∀ e' ∈ (s2f37 s ceed ceids).1.conf.links, ∃ e ∈ s.conf.links, e'.2.1 = e.2.1 := fun e' he' =>
    have hm : e'.2.1 ∈ s.conf.links.map (·.2.1) := hlists ▸ List.mem_map_of_mem he'
    have ⟨e, he, heq⟩ := List.mem_map.mp hm
    ⟨e, he, heq.symm⟩
  have hconf : (s2f37 s ceed ceids).1.conf = { s.conf with links := (s2f37 s ceed ceids).1.conf.links } :=
    congrArg (Config.mk · _) hreports
  show Integrity (s2f37 s ceed ceids).1.conf ∧ VidsKnown cfg (s2f37 s ceed ceids).1.conf
  rw [hconf]
  exact ⟨integrity_of_same_lists h.1 _ hsame, h.2⟩

theorem value_of_known (cfg : Cfg) (s : St) (v : Id) (h : cfg.known v = true) : ∃ x, value? cfg s v = some x := by
  unfold value?
  cases hf : cfg.svs.find? (fun e => e.1 = v) with
  | some p => obtain ⟨i, src⟩ := p; cases src <;> exact ⟨_, rfl⟩
  | none =>
    have hs : cfg.isSv v = false := by
      unfold Cfg.isSv
      rw [List.any_eq_false]
      intro x hx
      have := List.find?_eq_none.mp hf x hx
      simpa using this
    have hd : cfg.isDv v = true := by simpa [Cfg.known, hs] using h
    simp [hd]

end SecsModel.Proofs.Gem.Ev
