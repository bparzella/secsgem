import SecsModel.Proofs.SM
import SecsModel.Model.Hsms
import SecsModel.Model.GemComm
/-!
# Proofs.SMBridge — the one-line table steps of the protocol models are the engine

The C05 and C07 models do not carry the engine around: `Model.Hsms.smStep` (over `Gen.ConnSM.transitions`) and
`Model.GemComm.smStep` (over `Gen.CommSM.transitions`) look the transition up, check the source and make the destination current.
This file proves that this is what `Model.SM.perform` (the model of `StateMachine._perform_transition`, C18) does on those
machines whenever the registered handlers request no transition of the same machine (`Quiet`) — including that the engine does
not run out of fuel (it terminates) and that afterwards `active = ancestors-or-self of the destination`.
-/
namespace SecsModel.Proofs.SMBridge
open SecsModel SecsModel.Model.SM SecsModel.Proofs.SM SecsModel.Spec.SM SecsModel.Gen

/-- a `fire` completes with fuel `K + 2` (`fire_total`) -/
structure QuietK (h : Handlers) (K : Nat) : Prop where
  quiet : Quiet h
  bound : ∀ ev, (h ev).length ≤ K

theorem quietK_noHandlers : QuietK noHandlers 0 := ⟨quiet_noHandlers, fun _ => by simp [noHandlers]⟩

theorem climb_total {m : MDef} (wf : WF m) {visit : Nat → St → Nat → Out} {K : Nat}
    (hv : ∀ f st s, K ≤ f → ∃ s1, visit f st s = .ok s1) :
    ∀ f s st other, depth m s + K ≤ f → ∃ st', climb m visit f st s other = .ok st' := by
  intro f
  induction f with
  | zero => intro s _ _ hf; have := depth_pos (m := m) s; omega
  | succ f ih =>
    intro s st other hf
    have := depth_pos (m := m) s
    obtain ⟨s1, e⟩ := hv f st s (by omega)
    simp only [climb, e, Out.bind_ok]
    cases hp : m.parent s with
    | none => exact ⟨_, rfl⟩
    | some p =>
      simp only
      split
      · exact ih p _ _ (by have := depth_some wf hp; omega)
      · exact ⟨_, rfl⟩

theorem fire_total {m : MDef} {hh : Handlers} {K : Nat} (hq : QuietK hh K) (f : Nat) (st : St) (ev : Ev) (hf : K + 2 ≤ f) :
    fire m hh f st ev = .ok { st with log := st.log ++ [ev] } := by
  obtain ⟨f, rfl⟩ : ∃ f', f = f' + 1 := ⟨f - 1, by omega⟩
  rw [fire_quiet (hq.quiet ev), if_pos (by have := hq.bound ev; omega)]

theorem perform_total {m : MDef} (wf : WF m) {hh : Handlers} {K D : Nat} (hq : QuietK hh K) (hD : ∀ s, depth m s ≤ D)
    {f : Nat} (hf : D + K + 3 ≤ f) {st : St} {name : String} {srcs : List Nat} {dst : Nat}
    (hl : lookup m name = some (srcs, dst)) (hc : srcs.contains st.cur = true) :
    ∃ st', perform m hh f st name = .ok st' := by
  obtain ⟨f, rfl⟩ : ∃ f', f = f' + 1 := ⟨f - 1, by omega⟩
  obtain ⟨s1, h1⟩ : ∃ s1, leave m hh f st st.cur (some dst) = .ok s1 := by
    rw [leave_eq_climb]
    exact climb_total wf (K := K + 2) (fun f st s hf => by rw [fire_total hq f st _ hf]; exact ⟨_, rfl⟩) _ _ _ _
      (by have := hD st.cur; omega)
  obtain ⟨s2, h2⟩ : ∃ s2, enter m hh f { s1 with cur := dst } dst (some s1.cur) = .ok s2 := by
    rw [enter_eq_climb]
    exact climb_total wf (K := K + 2) (fun f st s hf => ⟨_, fire_total hq f _ _ hf⟩) _ _ _ _ (by have := hD dst; omega)
  rw [perform_allowed hl hc, h1, Out.bind_ok, h2, Out.bind_ok]
  exact ⟨_, fire_total hq f s2 _ (by omega)⟩

theorem lookup_ofTable (t : MachineTable) (name : String) :
    lookup (ofTable t) name =
      (t.transitions.find? (fun r => r.1 == name)).map (fun r => (r.2.1.map (stateIdx t), stateIdx t r.2.2)) := by
  simp only [lookup, ofTable, List.find?_map, Function.comp_def]
  cases t.transitions.find? (fun r => r.1 == name) <;> rfl

theorem ofTable_parent_ge (t : MachineTable) (s : Nat) (h : t.states.length ≤ s) : (ofTable t).parent s = none := by
  simp [ofTable, List.getElem?_eq_none h]

theorem stateName_stateIdx {t : MachineTable} {n : String} (h : stateIdx t n < t.states.length) :
    stateName t (stateIdx t n) = n := by
  unfold stateIdx at h ⊢
  cases hf : t.states.findIdx? (fun r => r.1 == n) with
  | none => rw [hf] at h; exact absurd h (Nat.lt_irrefl _)
  | some i =>
    obtain ⟨hi, hp, _⟩ := List.findIdx?_eq_some_iff_getElem.mp hf
    simp only [stateName, List.getElem?_eq_getElem hi]
    exact beq_iff_eq.mp hp

/-- What the bridge needs of a generated table (`TableOk`), decided in the kernel for `ConnSM` and `CommSM` below.  `TableOk.dst` has no
conjunct of its own: `wfB` already says that destinations resolve, and a name that resolves names its state (`stateName_stateIdx`);
`1 ≤ D` is for the undeclared states, whose depth is 1. -/
def tableOkB (t : MachineTable) (D : Nat) : Bool :=
  wfB (ofTable t) && decide (1 ≤ D) &&
  (List.range t.states.length).all (fun s => decide (depth (ofTable t) s ≤ D)) &&
  -- the numeric source check is the source check by name
  t.transitions.all (fun tr => (List.range t.states.length).all fun c =>
    (tr.2.1.map (stateIdx t)).contains c == tr.2.1.contains (stateName t c))

structure TableOk (t : MachineTable) (D : Nat) : Prop where
  wf : WF (ofTable t)
  depth : ∀ s, depth (ofTable t) s ≤ D
  srcs : ∀ tr, tr ∈ t.transitions → ∀ c, c < t.states.length →
    (tr.2.1.map (stateIdx t)).contains c = tr.2.1.contains (stateName t c)
  dst : ∀ tr, tr ∈ t.transitions → stateName t (stateIdx t tr.2.2) = tr.2.2

theorem tableOk_of (t : MachineTable) (D : Nat) (h : tableOkB t D = true) : TableOk t D := by
  simp only [tableOkB, wfB, Bool.and_eq_true, List.all_eq_true, List.mem_range, decide_eq_true_eq, beq_iff_eq] at h
  obtain ⟨⟨⟨⟨hpar, htr⟩, hD1⟩, hdep⟩, hsrc⟩ := h
  refine ⟨fun s p hp => ?_, fun s => ?_, hsrc, fun tr hmem => stateName_stateIdx ?_⟩
  · by_cases hs : s < t.states.length
    · simpa [hp] using hpar s hs
    · rw [ofTable_parent_ge t s (by omega)] at hp; cases hp
  · by_cases hs : s < t.states.length
    · exact hdep s hs
    · have : depth (ofTable t) s = 1 := by simp [depth, chain_none (ofTable_parent_ge t s (by omega))]
      omega
  · exact (htr _ (List.mem_map_of_mem (f := fun r => (r.1, r.2.1.map (stateIdx t), stateIdx t r.2.2)) hmem)).2

def failOf : Err → Option Fail
  | .unknownTransition => some .unknown
  | .wrongSource => some .wrongSource
  | _ => none

/-- **The bridge, generic in the table.**  `Model.Hsms.smStep` on the table's transition list, started from the *name* of the
engine's current state, succeeds iff `Model.SM.perform` succeeds; then the engine's new current state is the state named by the
table step's destination and `active = ancestors-or-self` of it; otherwise both report the same error class and the engine's
state is untouched. -/
theorem bridge (t : MachineTable) (D K : Nat) (ok : TableOk t D) (hh : Handlers) (hq : QuietK hh K) (f : Nat)
    (hf : D + K + 3 ≤ f) (st : St) (hcur : st.cur < t.states.length) (hinv : Inv (ofTable t) st) (name : String) :
    match Model.Hsms.smStep t.transitions (stateName t st.cur) name with
    | .ok d => ∃ st', perform (ofTable t) hh f st name = .ok st' ∧ st'.cur = stateIdx t d ∧ stateName t st'.cur = d ∧
        Inv (ofTable t) st'
    | .error e => ∃ e', failOf e = some e' ∧ perform (ofTable t) hh f st name = .fail e' st := by
  have hl := lookup_ofTable t name
  unfold Model.Hsms.smStep
  obtain ⟨f', rfl⟩ : ∃ f', f = f' + 1 := ⟨f - 1, by omega⟩
  cases hfind : t.transitions.find? (fun r => r.1 == name) with
  | none =>
    rw [hfind] at hl
    exact ⟨.unknown, rfl, perform_unknown hl⟩
  | some tr =>
    obtain ⟨nm, srcs, dst⟩ := tr
    rw [hfind] at hl
    simp only [Option.map_some] at hl
    have hmem : (nm, srcs, dst) ∈ t.transitions := List.mem_of_find?_eq_some hfind
    have hsrc := ok.srcs _ hmem st.cur hcur
    simp only at hsrc ⊢
    cases hc : srcs.contains (stateName t st.cur) with
    | false =>
      simp only [Bool.false_eq_true, ↓reduceIte]
      rw [hc] at hsrc
      exact ⟨.wrongSource, rfl, perform_wrongSource hl hsrc⟩
    | true =>
      simp only [↓reduceIte]
      rw [hc] at hsrc
      obtain ⟨st', hp⟩ := perform_total ok.wf hq ok.depth hf hl hsrc
      have hperf := perform_quiet_ok hq.quiet hp
      obtain ⟨_, hl', _⟩ := hperf.lookup
      have hd : st'.cur = stateIdx t dst := (congrArg (·.2) (Option.some.inj (hl.symm.trans hl'))).symm
      exact ⟨st', hp, hd, by rw [hd]; exact ok.dst _ hmem, inv_performed ok.wf hinv hperf⟩

theorem failOf_eq_some {e : Err} {e' : Fail} (h : failOf e = some e') :
    (e = .unknownTransition ∧ e' = .unknown) ∨ (e = .wrongSource ∧ e' = .wrongSource) :=
  match e, h with
  | .unknownTransition, rfl => .inl ⟨rfl, rfl⟩
  | .wrongSource, rfl => .inr ⟨rfl, rfl⟩

theorem smStep_ok_mem {tbl : List (String × List String × String)} {cur name d : String}
    (h : Model.Hsms.smStep tbl cur name = .ok d) : ∃ tr, tr ∈ tbl ∧ tr.2.2 = d := by
  unfold Model.Hsms.smStep at h
  split at h
  · cases h
  · rename_i hf
    split at h
    · cases h; exact ⟨_, List.mem_of_find?_eq_some hf, rfl⟩
    · cases h

/-- `nm` names states of the table, among them every destination, and `ofName` reads those names back: the way the protocol
models keep the machine's state -/
structure Named {α : Type} (t : MachineTable) (nm : α → String) (ofName : String → Option α) : Prop where
  idx : ∀ c, stateIdx t (nm c) < t.states.length
  dst : ∀ tr, tr ∈ t.transitions → (ofName tr.2.2).map nm = some tr.2.2

theorem bridge_named {α : Type} {t : MachineTable} {nm : α → String} {ofName : String → Option α} (hn : Named t nm ofName)
    (D K : Nat) (ok : TableOk t D) (hh : Handlers) (hq : QuietK hh K) (f : Nat) (hf : D + K + 3 ≤ f) (c : α) (st : St)
    (hcur : st.cur = stateIdx t (nm c)) (hinv : Inv (ofTable t) st) (name : String) :
    match Model.Hsms.smStep t.transitions (nm c) name with
    | .ok d => ∃ c' st', ofName d = some c' ∧ perform (ofTable t) hh f st name = .ok st' ∧ st'.cur = stateIdx t (nm c') ∧
        Inv (ofTable t) st'
    | .error e => ∃ e', failOf e = some e' ∧ perform (ofTable t) hh f st name = .fail e' st := by
  have hb := bridge t D K ok hh hq f hf st (hcur ▸ hn.idx c) hinv name
  rw [hcur, stateName_stateIdx (hn.idx c)] at hb
  cases hs : Model.Hsms.smStep t.transitions (nm c) name with
  | error e => rw [hs] at hb; exact hb
  | ok d =>
    rw [hs] at hb
    obtain ⟨st', hp, hc', _, hi'⟩ := hb
    obtain ⟨tr, hmem, rfl⟩ := smStep_ok_mem hs
    obtain ⟨c', hof, hn'⟩ := Option.map_eq_some_iff.mp (hn.dst tr hmem)
    exact ⟨c', st', hof, hp, by rw [hc', hn'], hi'⟩

theorem conn_tableOk : TableOk ConnSM 2 := tableOk_of _ _ (by decide +kernel)
theorem comm_tableOk : TableOk CommSM 2 := tableOk_of _ _ (by decide +kernel)

open SecsModel.Spec.E37 (Conn) in
theorem conn_names : Named ConnSM Model.Hsms.connName Model.Hsms.connOfName := by
  have h : ∀ c ∈ [Conn.notConnected, .notSelected, .selected], stateIdx ConnSM (Model.Hsms.connName c) < ConnSM.states.length := by
    decide +kernel
  exact ⟨fun c => h c (by cases c <;> decide), by decide +kernel⟩

open SecsModel.Spec.E30Comm in
theorem comm_names : Named CommSM Comm.name Comm.ofName := by
  have h : ∀ c ∈ Comm.all, stateIdx CommSM c.name < CommSM.states.length := by decide +kernel
  exact ⟨fun c => h c (by cases c <;> decide), by decide +kernel⟩

/-- callbacks standing for the rows `(state, event, method)` of a wiring list: what the methods do (timers, sends, firing other
producers' events) is outside the machine; none requests a transition of it -/
def wired (t : MachineTable) (w : List (String × String × String)) : Handlers := fun ev =>
  match ev with
  | .enter s => (w.filter fun r => r.1 == stateName t s && r.2.1 == "enter").map fun _ => ((fun _ => []) : Callback)
  | .leave s => (w.filter fun r => r.1 == stateName t s && r.2.1 == "leave").map fun _ => ((fun _ => []) : Callback)
  | .called _ => []

theorem wired_quietK (t : MachineTable) (w : List (String × String × String)) : QuietK (wired t w) w.length := by
  refine ⟨?_, ?_⟩
  · intro ev cb hcb st
    cases ev <;> simp only [wired, List.mem_map, List.not_mem_nil] at hcb
    · obtain ⟨_, _, rfl⟩ := hcb; rfl
    · obtain ⟨_, _, rfl⟩ := hcb; rfl
  · intro ev
    cases ev <;> simp only [wired, List.length_map, List.length_nil, Nat.zero_le]
    · exact List.length_filter_le _ _
    · exact List.length_filter_le _ _

/-- the callbacks `HsmsProtocol.__init__` registers on the connection machine (`Gen.HsmsProto.wiring`: start/stop the linktest
timer, start the select thread, fire "communicating") — none of them requests a transition of the connection machine -/
def connHandlers : Handlers := fun ev =>
  match ev with
  | .enter s => (HsmsProto.wiring.filter fun w => w.1 == stateName ConnSM s && w.2.1 == "enter").map fun _ => ((fun _ => []) : Callback)
  | .leave s => (HsmsProto.wiring.filter fun w => w.1 == stateName ConnSM s && w.2.1 == "leave").map fun _ => ((fun _ => []) : Callback)
  | .called _ => []

/-- the callbacks registered on the communication machine: its own timer handlers (`Gen.CommSM.wiring`: arm/cancel T3 and the
establish-communications delay) and `GemHandler`'s (`Gen.Callbacks.commWiring`: send S1F13, fire "handler_communicating") -/
def commHandlers : Handlers := fun ev =>
  match ev with
  | .enter s => ((CommSM.wiring ++ Callbacks.commWiring).filter fun w => w.1 == stateName CommSM s && w.2.1 == "enter").map
      fun _ => ((fun _ => []) : Callback)
  | .leave s => ((CommSM.wiring ++ Callbacks.commWiring).filter fun w => w.1 == stateName CommSM s && w.2.1 == "leave").map
      fun _ => ((fun _ => []) : Callback)
  | .called _ => []

/-- `connHandlers` and `commHandlers` are `wired …` written out; 3 and 6 are the lengths of the two wiring lists -/
theorem connHandlers_quiet : QuietK connHandlers 3 := wired_quietK ConnSM HsmsProto.wiring
theorem commHandlers_quiet : QuietK commHandlers 6 := wired_quietK CommSM (CommSM.wiring ++ Callbacks.commWiring)

open SecsModel.Spec.E30Comm in
theorem gemcomm_smStep_eq (c : Comm) (tr : Trans) :
    Model.GemComm.smStep c tr =
      match Model.Hsms.smStep CommSM.transitions c.name tr.name with
      | .ok d => (match Comm.ofName d with | some d' => .ok d' | none => .error .unknownState)
      | .error .unknownTransition => .error .unknownTransition
      | .error _ => .error .wrongSource := by
  unfold Model.GemComm.smStep Model.Hsms.smStep
  cases CommSM.transitions.find? (fun r => r.1 == tr.name) with
  | none => rfl
  | some r =>
    obtain ⟨_, srcs, dst⟩ := r
    simp only
    cases srcs.contains c.name
    · simp
    · simp only [↓reduceIte]; cases Comm.ofName dst <;> rfl

end SecsModel.Proofs.SMBridge
