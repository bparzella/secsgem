import SecsModel.Model.GemBase
/-! Lemmas about the dictionary operations of `Model.GemBase`, and the shape the checked handlers of the GEM table models share
(a "last error wins" pre-check loop, then an apply step that only the answer 0 lets happen). -/
namespace SecsModel.Proofs.Gem
open SecsModel SecsModel.Model.Gem

inductive Forall2 {α β : Type} (R : α → β → Prop) : List α → List β → Prop
  | nil : Forall2 R [] []
  | cons {a : α} {b : β} {as : List α} {bs : List β} : R a b → Forall2 R as bs → Forall2 R (a :: as) (b :: bs)

theorem Forall2.imp {α β : Type} {R S : α → β → Prop} (h : ∀ a b, R a b → S a b) :
    ∀ {l₁ : List α} {l₂ : List β}, Forall2 R l₁ l₂ → Forall2 S l₁ l₂
  | _, _, .nil => .nil
  | _, _, .cons hr ht => .cons (h _ _ hr) (Forall2.imp h ht)

theorem Forall2.length_eq {α β : Type} {R : α → β → Prop} : ∀ {l₁ : List α} {l₂ : List β}, Forall2 R l₁ l₂ → l₁.length = l₂.length
  | _, _, .nil => rfl
  | _, _, .cons _ ht => by simp [Forall2.length_eq ht]

theorem filterMap_forall2 {α β : Type} (f : α → Option β) : ∀ (l : List α), (∀ a ∈ l, ∃ b, f a = some b) →
    Forall2 (fun a b => f a = some b) l (l.filterMap f)
  | [], _ => Forall2.nil
  | a :: t, h => by
    obtain ⟨b, hb⟩ := h a List.mem_cons_self
    rw [List.filterMap_cons_some hb]
    exact Forall2.cons hb (filterMap_forall2 f t (fun x hx => h x (List.mem_cons_of_mem _ hx)))

namespace AList
variable {β : Type}

theorem lookup_some_mem {l : AList β} {k : Id} {v : β} (h : AList.lookup l k = some v) : (k, v) ∈ l := by
  induction l with
  | nil => simp [AList.lookup] at h
  | cons e t ih =>
    obtain ⟨k', v'⟩ := e
    simp only [AList.lookup] at h
    split at h
    · rename_i hk; subst hk; cases h; exact List.mem_cons_self
    · exact List.mem_cons_of_mem _ (ih h)

theorem lookup_isSome_iff {l : AList β} {k : Id} : (AList.lookup l k).isSome = true ↔ k ∈ AList.keys l := by
  induction l with
  | nil => simp [AList.lookup, AList.keys]
  | cons e t ih =>
    obtain ⟨k', v'⟩ := e
    simp only [AList.lookup, AList.keys, List.map_cons, List.mem_cons]
    split
    · rename_i hk; subst hk; simp
    · rename_i hk
      have : ¬ k = k' := fun h => hk h.symm
      simp only [this, false_or]
      exact ih

theorem contains_iff {l : AList β} {k : Id} : AList.contains l k = true ↔ k ∈ AList.keys l := lookup_isSome_iff

theorem lookup_none_iff {l : AList β} {k : Id} : AList.lookup l k = none ↔ k ∉ AList.keys l := by
  rw [← lookup_isSome_iff]; cases AList.lookup l k <;> simp

theorem exists_of_mem_keys {l : AList β} {k : Id} (h : k ∈ AList.keys l) : ∃ v, AList.lookup l k = some v := by
  have := lookup_isSome_iff.mpr h
  exact Option.isSome_iff_exists.mp this

theorem mem_set {l : AList β} {k : Id} {v : β} {e : Id × β} (h : e ∈ AList.set l k v) : e ∈ l ∨ e = (k, v) := by
  induction l with
  | nil => simp [AList.set] at h; exact Or.inr h
  | cons e' t ih =>
    obtain ⟨k', v'⟩ := e'
    simp only [AList.set] at h
    split at h
    · rename_i hk; subst hk
      rcases List.mem_cons.mp h with h | h
      · exact Or.inr h
      · exact Or.inl (List.mem_cons_of_mem _ h)
    · rcases List.mem_cons.mp h with h | h
      · exact Or.inl (h ▸ List.mem_cons_self)
      · rcases ih h with h | h
        · exact Or.inl (List.mem_cons_of_mem _ h)
        · exact Or.inr h

theorem lookup_set {l : AList β} {k k' : Id} {v : β} :
    AList.lookup (AList.set l k v) k' = if k = k' then some v else AList.lookup l k' := by
  induction l with
  | nil => simp [AList.set, AList.lookup]
  | cons e t ih =>
    obtain ⟨k0, v0⟩ := e
    simp only [AList.set]
    split
    · rename_i hk; subst hk; simp only [AList.lookup]; split <;> rfl
    · rename_i hk
      simp only [AList.lookup, ih]
      split
      · rename_i h0; subst h0; rw [if_neg (Ne.symm hk)]
      · rfl

theorem lookup_set_self {l : AList β} {k : Id} {v : β} : AList.lookup (AList.set l k v) k = some v := by
  rw [lookup_set, if_pos rfl]

theorem lookup_set_ne {l : AList β} {k k' : Id} {v : β} (h : k ≠ k') : AList.lookup (AList.set l k v) k' = AList.lookup l k' := by
  rw [lookup_set, if_neg h]

theorem keys_set {l : AList β} {k : Id} {v : β} {x : Id} : x ∈ AList.keys (AList.set l k v) ↔ x ∈ AList.keys l ∨ x = k := by
  rw [← lookup_isSome_iff, ← lookup_isSome_iff, lookup_set]
  split
  · rename_i h; simp [h]
  · rename_i h; simp [Ne.symm h]

theorem set_of_lookup_none {l : AList β} {k : Id} {v : β} (h : AList.lookup l k = none) : AList.set l k v = l ++ [(k, v)] := by
  induction l with
  | nil => rfl
  | cons e' t ih =>
    obtain ⟨k', v'⟩ := e'
    simp only [AList.lookup] at h
    split at h
    · cases h
    · rename_i hk
      simp [AList.set, hk, ih h]

theorem mem_erase {l : AList β} {k : Id} {e : Id × β} : e ∈ AList.erase l k ↔ e ∈ l ∧ e.1 ≠ k := by
  simp [AList.erase, List.mem_filter]

theorem keys_erase {l : AList β} {k x : Id} : x ∈ AList.keys (AList.erase l k) ↔ x ∈ AList.keys l ∧ x ≠ k := by
  simp only [AList.keys, List.mem_map]
  constructor
  · rintro ⟨e, he, rfl⟩
    have := mem_erase.mp he
    exact ⟨⟨e, this.1, rfl⟩, this.2⟩
  · rintro ⟨⟨e, he, rfl⟩, hne⟩
    exact ⟨e, mem_erase.mpr ⟨he, hne⟩, rfl⟩

theorem erase_of_not_mem {l : AList β} {k : Id} (h : k ∉ AList.keys l) : AList.erase l k = l := by
  refine List.filter_eq_self.mpr fun e he => ?_
  have : e.1 ≠ k := fun hk => h (hk ▸ List.mem_map_of_mem he)
  simp [this]

/-- `if k in d: del d[k]`: the test changes nothing -/
theorem erase_guarded (l : AList β) (k : Id) : (if AList.contains l k then AList.erase l k else l) = AList.erase l k := by
  split
  · rfl
  · rename_i hc
    exact (erase_of_not_mem fun h => hc (contains_iff.mpr h)).symm

end AList

/-- one `remove(x)` does not change what removing every `x` leaves (the step of `Ev.removeAllGo_eq`) -/
theorem filter_erase_self (x : Id) (l : List Id) : (l.erase x).filter (fun y => !(y = x)) = l.filter (fun y => !(y = x)) := by
  induction l with
  | nil => rfl
  | cons a t ih =>
    by_cases h : a = x
    · subst h; simp
    · have hb : (a == x) = false := by simp [h]
      rw [List.erase_cons, hb]
      simp [h, ih]

theorem filter_of_not_mem (x : Id) (l : List Id) (h : x ∉ l) : l.filter (fun y => !(y = x)) = l := by
  apply List.filter_eq_self.mpr
  intro a ha
  have : a ≠ x := fun e => h (e ▸ ha)
  simp [this]

/-- A pre-check loop keeps one acknowledge code, "last error wins".  If one turn of the loop either carries the code on past an
element that passes (`Z`) or sets a non-zero code that the element justifies (`Q`), then the loop answers the code it started
with, every element passing, or a non-zero code justified by some element. -/
theorem verdict {α : Type} {loop : Nat → List α → Except Err Nat} {Z : α → Prop} {Q : Nat → α → Prop}
    (hnil : ∀ acc d, loop acc [] = .ok d → d = acc)
    (hcons : ∀ acc a as d, loop acc (a :: as) = .ok d →
      ∃ d1, loop d1 as = .ok d ∧ ((d1 = acc ∧ Z a) ∨ (d1 ≠ 0 ∧ Q d1 a))) :
    ∀ (l : List α) (acc d : Nat), loop acc l = .ok d → (d = acc ∧ ∀ a ∈ l, Z a) ∨ (d ≠ 0 ∧ ∃ a ∈ l, Q d a)
  | [], acc, d, h => .inl ⟨hnil acc d h, nofun⟩
  | a :: as, acc, d, h => by
    obtain ⟨d1, h1, ha⟩ := hcons acc a as d h
    rcases verdict hnil hcons as d1 d h1 with ⟨rfl, hz⟩ | ⟨hd, x, hx, hq⟩
    · rcases ha with ⟨rfl, hza⟩ | ⟨hd, hq⟩
      · exact .inl ⟨rfl, List.forall_mem_cons.mpr ⟨hza, hz⟩⟩
      · exact .inr ⟨hd, a, List.mem_cons_self, hq⟩
    · exact .inr ⟨hd, x, List.mem_cons_of_mem _ hx, hq⟩

theorem verdict_zero {d acc : Nat} {A B : Prop} (h : (d = acc ∧ A) ∨ (d ≠ 0 ∧ B)) (hd : d = 0) : acc = 0 ∧ A :=
  have ha := h.resolve_right fun hb => hb.1 hd
  ⟨ha.1.symm.trans hd, ha.2⟩

/-- the handler around such a loop: a pre-check that raised is answered `SxF0`, a non-zero code is answered as it is, and only
the code 0 lets `ok` happen -/
def guarded {σ : Type} (pre : Except Err Nat) (s : σ) (ok : σ × Ack) : σ × Ack :=
  match pre with
  | .error _ => (s, .abort)
  | .ok c => if c ≠ 0 then (s, .code c) else ok

def Checked {σ : Type} (pre : Except Err Nat) (s : σ) (ok r : σ × Ack) : Prop :=
  (pre = .ok 0 ∧ r = ok) ∨ (∃ n, n ≠ 0 ∧ pre = .ok n ∧ r = (s, .code n)) ∨ (∃ e, pre = .error e ∧ r = (s, .abort))

theorem guarded_checked {σ : Type} (pre : Except Err Nat) (s : σ) (ok : σ × Ack) : Checked pre s ok (guarded pre s ok) := by
  cases pre with
  | error e => exact .inr (.inr ⟨e, rfl, rfl⟩)
  | ok n =>
    cases n with
    | zero => exact .inl ⟨rfl, rfl⟩
    | succ n => exact .inr (.inl ⟨n + 1, nofun, rfl, rfl⟩)

theorem Checked.accepted {σ : Type} {pre : Except Err Nat} {s : σ} {ok r : σ × Ack} (h : Checked pre s ok r)
    (h0 : r.2 = .code 0) : pre = .ok 0 ∧ r = ok := by
  rcases h with ⟨hp, he⟩ | ⟨n, hn, _, he⟩ | ⟨e, _, he⟩
  · exact ⟨hp, he⟩
  · rw [he] at h0; cases h0; exact absurd rfl hn
  · rw [he] at h0; cases h0

/-- In a tactic block the motive has to be named (`(P := …)`): it cannot be read off `P r.1`. -/
theorem Checked.keeps {σ : Type} {pre : Except Err Nat} {s : σ} {ok r : σ × Ack} {P : σ → Prop} (h : Checked pre s ok r)
    (hs : P s) (hok : pre = .ok 0 → P ok.1) : P r.1 := by
  rcases h with ⟨hp, he⟩ | ⟨n, _, _, he⟩ | ⟨e, _, he⟩
  · rw [he]; exact hok hp
  · rw [he]; exact hs
  · rw [he]; exact hs

theorem Checked.unchanged {σ : Type} {pre : Except Err Nat} {s : σ} {ok r : σ × Ack} (h : Checked pre s ok r)
    (hok : ok.2 = .code 0) (hne : r.2 ≠ .code 0) : r.1 = s := by
  rcases h with ⟨_, he⟩ | ⟨n, _, _, he⟩ | ⟨e, _, he⟩
  · rw [he] at hne; exact absurd hok hne
  · rw [he]
  · rw [he]

theorem Checked.pre_of_code {σ : Type} {pre : Except Err Nat} {s : σ} {ok r : σ × Ack} {n : Nat} (h : Checked pre s ok r)
    (hok : ok.2 = .code 0) (hn : r.2 = .code n) : pre = .ok n := by
  rcases h with ⟨hp, he⟩ | ⟨m, _, hp, he⟩ | ⟨e, _, he⟩ <;> rw [he] at hn
  · rw [hok] at hn; cases hn; exact hp
  · cases hn; exact hp
  · cases hn

end SecsModel.Proofs.Gem
