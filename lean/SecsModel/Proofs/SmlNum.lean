import SecsModel.Model.Sml
/-!
# Proofs.SmlNum — integer text: the printers `decNat/decInt/hexLit` against the Python-literal parser `pyInt`, and that what they
print is a non-empty run of plain characters (one token for the tokenizer)
-/
namespace SecsModel.Proofs.Sml
open SecsModel.Model.Sml

def AllPlain (w : Text) : Prop := ∀ c ∈ w, isPlain c = true

instance (w : Text) : Decidable (AllPlain w) := inferInstanceAs (Decidable (∀ c ∈ w, isPlain c = true))

def ofDigitsLE (B : Nat) : List Nat → Nat
  | [] => 0
  | d :: ds => d + B * ofDigitsLE B ds

theorem digitsAux_spec (b : Nat) : ∀ (f n : Nat), n < f →
    ofDigitsLE (b + 2) (digitsAux b f n) = n ∧ (∀ d ∈ digitsAux b f n, d < b + 2) ∧ digitsAux b f n ≠ []
  | 0, _, h => by omega
  | f + 1, n, h => by
    unfold digitsAux
    split
    · rename_i hlt
      exact ⟨by simp [ofDigitsLE], by simpa using hlt, by simp⟩
    · have hdiv : n / (b + 2) < f := by
        have : n / (b + 2) < n := Nat.div_lt_self (by omega) (by omega)
        omega
      obtain ⟨h1, h2, _⟩ := digitsAux_spec b f (n / (b + 2)) hdiv
      refine ⟨?_, ?_, by simp⟩
      · rw [ofDigitsLE, h1]; exact Nat.mod_add_div n (b + 2)
      · intro d hd
        rcases List.mem_cons.mp hd with rfl | hd
        · exact Nat.mod_lt _ (by omega)
        · exact h2 d hd

theorem digitsLE_spec (b n : Nat) :
    ofDigitsLE (b + 2) (digitsLE b n) = n ∧ (∀ d ∈ digitsLE b n, d < b + 2) ∧ digitsLE b n ≠ [] :=
  digitsAux_spec b (n + 1) n (by omega)

/-- value of big-endian digits, the way the scanner accumulates them -/
def accDigits (B : Nat) (acc : Nat) (ds : List Nat) : Nat := ds.foldl (fun a d => a * B + d) acc

theorem accDigits_reverse (B : Nat) (ds : List Nat) : accDigits B 0 ds.reverse = ofDigitsLE B ds := by
  induction ds with
  | nil => rfl
  | cons d ds ih =>
    simp only [accDigits, List.reverse_cons, List.foldl_append, List.foldl_cons, List.foldl_nil, ofDigitsLE] at ih ⊢
    rw [ih]; rw [Nat.mul_comm]; omega

theorem digitVal_digitCh (d : Nat) (h : d < 36) : digitVal (digitCh d) = some d := by
  unfold digitCh digitVal
  by_cases h10 : d < 10
  · have : 48 ≤ 48 + d ∧ 48 + d ≤ 57 := by omega
    simp [h10, this]
  · have h1 : ¬ (48 ≤ 87 + d ∧ 87 + d ≤ 57) := by omega
    have h2 : 97 ≤ 87 + d ∧ 87 + d ≤ 122 := by omega
    simp [h10, h1, h2]

theorem digitCh_ne_underscore (d : Nat) (h : d < 36) : digitCh d ≠ 95 := fun h95 => by
  have := digitVal_digitCh d h
  rw [h95] at this
  cases this

theorem alnum_range {c : Nat} (h : (digitVal c).isSome = true) :
    48 ≤ c ∧ c ≤ 122 ∧ c ≠ 60 ∧ c ≠ 62 ∧ c ≠ 91 ∧ c ≠ 93 := by
  unfold digitVal at h
  split at h
  · omega
  · split at h
    · omega
    · split at h
      · omega
      · cases h

theorem alnum_plain {c : Nat} (h : (digitVal c).isSome = true) : isPlain c = true := by
  have := alnum_range h
  simp only [isPlain, isWs, isOp, isDelim, Bool.and_eq_true, Bool.not_eq_true', Bool.or_eq_false_iff, beq_eq_false_iff_ne]
  omega

theorem alnum_notPyWs {c : Nat} (h : (digitVal c).isSome = true) : isPyWs c = false := by
  have := alnum_range h
  simp only [isPyWs, Bool.or_eq_false_iff, Bool.and_eq_false_iff, decide_eq_false_iff_not, beq_eq_false_iff_ne]
  omega

theorem digitsGo_digits (B : Nat) (hB : B ≤ 36) (rest : Text) : ∀ (ds : List Nat), (∀ d ∈ ds, d < B) → ds ≠ [] →
    ∀ (acc : Nat) (pu : Bool) (cnt : Nat),
      digitsGo B (ds.map digitCh ++ rest) acc pu cnt = digitsGo B rest (accDigits B acc ds) false (cnt + ds.length)
  | [], _, h, _, _, _ => absurd rfl h
  | d :: ds, hds, _, acc, pu, cnt => by
    have hd : d < B := hds d (by simp)
    simp only [List.map_cons, List.cons_append, digitsGo, digitCh_ne_underscore d (by omega), if_false, digitVal_digitCh d (by omega), hd, if_true]
    cases ds with
    | nil => rfl
    | cons e es =>
      rw [digitsGo_digits B hB rest (e :: es) (fun x hx => hds x (by simp [hx])) (by simp)]
      simp only [accDigits, List.foldl_cons, List.length_cons]
      congr 1; omega

/-- the digit string of `n` in base `b+2`, big-endian, as characters -/
def natText (b n : Nat) : Text := ((digitsLE b n).reverse).map digitCh

theorem decNat_eq (n : Nat) : decNat n = natText 8 n := rfl
theorem hexLit_eq (n : Nat) : hexLit n = 48 :: 120 :: natText 14 n := rfl

theorem digitsGo_natText (b n : Nat) (hb : b + 2 ≤ 36) : digitsGo (b + 2) (natText b n) 0 false 0 = some n := by
  obtain ⟨h1, h2, h3⟩ := digitsLE_spec b n
  have hne : (digitsLE b n).reverse ≠ [] := by simpa using h3
  have := digitsGo_digits (b + 2) hb [] _ (fun d hd => h2 d (List.mem_reverse.mp hd)) hne 0 false 0
  rw [List.append_nil] at this
  rw [natText, this, accDigits_reverse, h1]
  simp [digitsGo, h3]

theorem natText_alnum (b n : Nat) (hb : b + 2 ≤ 36) : ∀ c ∈ natText b n, (digitVal c).isSome = true := by
  intro c hc
  obtain ⟨d, hd, rfl⟩ := List.mem_map.mp hc
  rw [digitVal_digitCh d (by have := (digitsLE_spec b n).2.1 d (List.mem_reverse.mp hd); omega)]; rfl

theorem natText_word (b n : Nat) (hb : b + 2 ≤ 36) : natText b n ≠ [] ∧ AllPlain (natText b n) :=
  ⟨by simpa [natText] using (digitsLE_spec b n).2.2, fun c hc => alnum_plain (natText_alnum b n hb c hc)⟩

theorem natText_notPyWs (b n : Nat) (hb : b + 2 ≤ 36) : ∀ c ∈ natText b n, isPyWs c = false :=
  fun c hc => alnum_notPyWs (natText_alnum b n hb c hc)

theorem natText_head (b n : Nat) (hb : b + 2 ≤ 36) : ∃ c r, natText b n = c :: r ∧ (digitVal c).isSome = true := by
  cases h : natText b n with
  | nil => exact absurd h (natText_word b n hb).1
  | cons c r => exact ⟨c, r, rfl, natText_alnum b n hb c (by rw [h]; simp)⟩

/-- what `str.strip` does to `a ++ m ++ b` when it strips exactly the characters of `a` and `b` and none of `m` -/
theorem strip_append {p : Nat → Bool} {a m b : Text} (ha : ∀ c ∈ a, p c = true) (hb : ∀ c ∈ b, p c = true)
    (hm : ∀ c ∈ m, p c = false) : (((a ++ (m ++ b)).dropWhile p).reverse.dropWhile p).reverse = m := by
  rw [List.dropWhile_append_of_pos ha]
  cases m with
  | nil => rw [List.nil_append, ← List.append_nil b, List.dropWhile_append_of_pos hb]; rfl
  | cons c m =>
    rw [List.cons_append, List.dropWhile_cons_of_neg (by simp [hm c]), ← List.cons_append, List.reverse_append,
      List.dropWhile_append_of_pos fun x hx => hb x (List.mem_reverse.mp hx)]
    cases h : (c :: m).reverse with
    | nil => simp at h
    | cons z zs =>
      have hz : z ∈ c :: m := List.mem_reverse.mp (h ▸ List.mem_cons_self ..)
      rw [List.dropWhile_cons_of_neg (by simp [hm z hz]), ← h, List.reverse_reverse]

theorem stripWs_id (s : Text) (h : ∀ c ∈ s, isPyWs c = false) : stripWs s = s := by
  simpa [stripWs] using strip_append (p := isPyWs) (a := []) (b := []) nofun nofun h

theorem pyInt_unsigned (base0 : Bool) {c : Nat} {r : Text} {n : Nat} (hws : ∀ x ∈ c :: r, isPyWs x = false)
    (hc : (digitVal c).isSome = true) (h : pyNat base0 (c :: r) = some n) : pyInt base0 (c :: r) = some (n : Int) := by
  unfold pyInt
  rw [stripWs_id _ hws]
  split
  · rename_i heq; cases heq; cases hc
  · rename_i heq; cases heq; cases hc
  · rw [h]; rfl

theorem pyInt_neg (base0 : Bool) {s : Text} {n : Nat} (hws : ∀ x ∈ s, isPyWs x = false) (h : pyNat base0 s = some n) :
    pyInt base0 (45 :: s) = some (-(n : Int)) := by
  unfold pyInt
  rw [stripWs_id _ (by simpa using ⟨by decide, hws⟩)]
  simp only [h]; rfl

theorem pyInt_decNat (n : Nat) : pyInt false (decNat n) = some (n : Int) := by
  obtain ⟨c, r, hcr, hc⟩ := natText_head 8 n (by omega)
  have hgo := digitsGo_natText 8 n (by omega)
  have hws := natText_notPyWs 8 n (by omega)
  rw [decNat_eq]
  rw [hcr] at hgo hws ⊢
  exact pyInt_unsigned false hws hc (show pyNat false (c :: r) = some n from hgo)

theorem pyInt_decInt (v : Int) : pyInt false (decInt v) = some v := by
  unfold decInt
  split
  · rw [decNat_eq, pyInt_neg false (natText_notPyWs 8 _ (by omega)) (digitsGo_natText 8 _ (by omega))]
    congr 1; omega
  · rw [pyInt_decNat]
    congr 1; omega

theorem skipUnderscore_digit (c : Nat) (r : Text) (h : (digitVal c).isSome = true) : skipUnderscore (c :: r) = c :: r := by
  unfold skipUnderscore
  split
  · rename_i heq; cases heq; cases h
  · rfl

theorem pyInt_hexLit (n : Nat) : pyInt true (hexLit n) = some (n : Int) := by
  obtain ⟨c, r, hcr, hc⟩ := natText_head 14 n (by omega)
  have hgo := digitsGo_natText 14 n (by omega)
  have hws := natText_notPyWs 14 n (by omega)
  rw [hexLit_eq]
  rw [hcr] at hgo hws ⊢
  refine pyInt_unsigned true (List.forall_mem_cons.mpr ⟨by decide, List.forall_mem_cons.mpr ⟨by decide, hws⟩⟩) (by decide) ?_
  simp only [pyNat, if_true, true_or]
  rw [skipUnderscore_digit c r hc, hgo]

theorem decNat_word (n : Nat) : decNat n ≠ [] ∧ AllPlain (decNat n) := natText_word 8 n (by omega)

theorem decInt_word (v : Int) : decInt v ≠ [] ∧ AllPlain (decInt v) := by
  unfold decInt
  split
  · exact ⟨nofun, List.forall_mem_cons.mpr ⟨by decide, (decNat_word _).2⟩⟩
  · exact decNat_word _

theorem hexLit_word (n : Nat) : hexLit n ≠ [] ∧ AllPlain (hexLit n) :=
  ⟨nofun, List.forall_mem_cons.mpr ⟨by decide, List.forall_mem_cons.mpr ⟨by decide, (natText_word 14 n (by omega)).2⟩⟩⟩

theorem hexLit_head (n : Nat) : (hexLit n).head? = some 48 := rfl

end SecsModel.Proofs.Sml
