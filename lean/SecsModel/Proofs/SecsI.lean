import SecsModel.Proofs.SecsIHeader
import SecsModel.Proofs.Chunks
/-! Lemmas about the hand model `Model.SecsI`: `split` (over the chunk lemmas of `Proofs/Chunks.lean`), then the block codec (`Block.encode`/`Block.decode` on a
frame cut into length byte, header, data, checksum; what one altered byte does to it). -/
namespace SecsModel.Proofs.SecsI
open SecsModel SecsModel.Gen SecsModel.Model.SecsI SecsModel.Proofs.SecsIHdr

theorem number_data (h : Header) (c : Bool) (t : Nat) : ∀ (i : Nat) (ds : List Bytes),
    (number h c t i ds).map (·.data) = ds
  | _, [] => rfl
  | i, d :: ds => by simp [number, number_data h c t (i+1) ds]

theorem number_length (h : Header) (c : Bool) (t : Nat) : ∀ (i : Nat) (ds : List Bytes),
    (number h c t i ds).length = ds.length
  | _, [] => rfl
  | i, d :: ds => by simp [number, number_length h c t (i+1) ds]

theorem number_get (h : Header) (c : Bool) (t : Nat) : ∀ (i : Nat) (ds : List Bytes) (j : Nat) (hj : j < ds.length),
    (number h c t i ds)[j]? =
      some ⟨{ h with block := ((i + j + 1 : Nat) : Int), last_block := if c then decide (i + j + 1 = t) else h.last_block }, ds[j]⟩
  | i, d :: ds, 0, _ => by simp [number]
  | i, d :: ds, j+1, hj => by
    rw [number, List.getElem?_cons_succ, number_get h c t (i+1) ds j (Nat.lt_of_succ_lt_succ hj), Nat.add_right_comm i 1 j]
    rfl

/-- the local `data_blocks` of `_split_blocks` at the block size 244 -/
def dataBlocks (body : Bytes) : List Bytes := if body.length = 0 then [body] else chunks 244 body

theorem split_eq (h : Header) (body : Bytes) (c : Bool) :
    split h body c = number h c (dataBlocks body).length 0 (dataBlocks body) := by
  simp only [split, BlockFmt.secsiBlockSize, dataBlocks]
  have : ¬ ((244 : Int) = -1) := by decide
  simp [this]

theorem dataBlocks_eq (body : Bytes) : dataBlocks body = body.take 244 :: chunks 244 (body.drop 244) := by
  by_cases hd : body = []
  · rw [hd, List.drop_nil, chunks_nil]; rfl
  · rw [← chunks_cons (by decide) hd]
    exact if_neg (fun c => hd (List.length_eq_zero_iff.mp c))

theorem dataBlocks_small (data : Bytes) (hlen : data.length ≤ 244) : dataBlocks data = [data] := by
  rw [dataBlocks_eq, List.take_of_length_le hlen, List.drop_of_length_le hlen, chunks_nil]

theorem dataBlocks_flatten (body : Bytes) : (dataBlocks body).flatten = body := by
  rw [dataBlocks_eq, List.flatten_cons, chunks_flatten (by decide), List.take_append_drop]

theorem dataBlocks_length (body : Bytes) : (dataBlocks body).length = max 1 ((body.length + 243) / 244) := by
  by_cases hd : body = []
  · rw [hd]; rfl
  · have : 0 < body.length := List.length_pos_iff.mpr hd
    rw [dataBlocks_eq, ← chunks_cons (by decide) hd, chunks_length (by decide),
      Nat.max_eq_right (Nat.div_pos (by omega) (by decide))]
    rfl

theorem dataBlocks_bound (body : Bytes) : ∀ d ∈ dataBlocks body, d.length ≤ 244 := by
  rw [dataBlocks_eq]
  intro d hd
  rcases List.mem_cons.mp hd with rfl | hd
  · exact List.length_take_le _ _
  · exact (chunks_bound (by decide) _ d hd).2

theorem split_data (h : Header) (body : Bytes) : (split h body).map (·.data) = dataBlocks body := by
  rw [split_eq, number_data]

theorem split_length (h : Header) (body : Bytes) : (split h body).length = max 1 ((body.length + 243) / 244) := by
  rw [split_eq, number_length, dataBlocks_length]

theorem split_data_le (h : Header) (body : Bytes) : ∀ b ∈ split h body, b.data.length ≤ 244 :=
  fun _ hb => dataBlocks_bound body _ (split_data h body ▸ List.mem_map_of_mem hb)

theorem split_header (h : Header) (body : Bytes) (j : Nat) (hj : j < (split h body).length) :
    (split h body)[j].header =
      { h with block := ((j + 1 : Nat) : Int), last_block := decide (j + 1 = (split h body).length) } := by
  have hj' : j < (dataBlocks body).length := by rwa [split_eq, number_length] at hj
  have := number_get h true (dataBlocks body).length 0 (dataBlocks body) j hj'
  rw [← split_eq, List.getElem?_eq_getElem hj, Option.some.injEq] at this
  rw [this, split_eq, number_length, Nat.zero_add]
  rfl

theorem sum_lt {hb data : Bytes} (hhb : hb.length = 10) (ahb : AllBytes hb) (adata : AllBytes data) (hn : data.length ≤ 245) :
    (hb ++ data).sum < 256 ^ 2 := by
  have := (AllBytes.append_iff.mpr ⟨ahb, adata⟩).sum_le
  rw [List.length_append, hhb] at this
  omega

/-- the generated widths: one length byte, two checksum bytes, ten header bytes (closed by `rfl`) -/
theorem encode_eq (b : Block) : Block.encode b = Block.encodeW 1 2 10 b := rfl

theorem encodeW_ok {lw cw hl : Nat} {b : Block} {hb lb cb : Bytes} (h1 : b.header.encode = .ok hb)
    (h2 : Py.packBE [(lw, ((hl + b.data.length : Nat) : Int))] = .ok lb)
    (h3 : Py.packBE [(cw, (((hb ++ b.data).sum : Nat) : Int))] = .ok cb) :
    Block.encodeW lw cw hl b = .ok (lb ++ (hb.take hl ++ List.replicate (hl - hb.length) 0) ++ b.data ++ cb) := by
  simp only [Block.encodeW, h1, h2, h3]

theorem encodeW_header_error {lw cw hl : Nat} {b : Block} {e : Err} (h1 : b.header.encode = .error e) :
    Block.encodeW lw cw hl b = .error e := by
  simp only [Block.encodeW, h1]

theorem encodeW_length_error {lw cw hl : Nat} {b : Block} {hb : Bytes} {e : Err} (h1 : b.header.encode = .ok hb)
    (h2 : Py.packBE [(lw, ((hl + b.data.length : Nat) : Int))] = .error e) : Block.encodeW lw cw hl b = .error e := by
  simp only [Block.encodeW, h1, h2]

theorem encodeW_checksum_error {lw cw hl : Nat} {b : Block} {hb lb : Bytes} {e : Err} (h1 : b.header.encode = .ok hb)
    (h2 : Py.packBE [(lw, ((hl + b.data.length : Nat) : Int))] = .ok lb)
    (h3 : Py.packBE [(cw, (((hb ++ b.data).sum : Nat) : Int))] = .error e) : Block.encodeW lw cw hl b = .error e := by
  simp only [Block.encodeW, h1, h2, h3]

/-- the `else` is Python's `struct.error` for a length byte or a checksum that does not fit its field;
`encode_ok` and `frame_of_encode_ok` below are the two directions -/
theorem encode_of_header {b : Block} {hb : Bytes} (hh : b.header.encode = .ok hb) :
    Block.encode b =
      if b.data.length ≤ 245 ∧ (hb ++ b.data).sum < 256 ^ 2 then
        .ok ((10 + b.data.length) :: (hb ++ (b.data ++ be 2 (hb ++ b.data).sum)))
      else .error .structError := by
  have hhb := encode_length _ _ hh
  have plen := Py.packBE_single 1 (10 + b.data.length)
  have psum := Py.packBE_single 2 (hb ++ b.data).sum
  rw [encode_eq]
  by_cases h1 : 10 + b.data.length < 256 ^ 1
  · rw [if_pos h1] at plen
    by_cases h2 : (hb ++ b.data).sum < 256 ^ 2
    · rw [if_pos h2] at psum
      rw [encodeW_ok hh plen psum, if_pos ⟨by omega, h2⟩, be_single h1, List.take_of_length_le (Nat.le_of_eq hhb), hhb]
      simp
    · rw [if_neg h2] at psum
      rw [encodeW_checksum_error hh plen psum, if_neg (fun c => h2 c.2)]
  · rw [if_neg h1] at plen
    rw [encodeW_length_error hh plen, if_neg (fun c => h1 (by have := c.1; omega))]

theorem encode_ok {b : Block} {hb : Bytes} (henc : b.header.encode = .ok hb) (adata : AllBytes b.data) (hn : b.data.length ≤ 245) :
    Block.encode b = .ok ((10 + b.data.length) :: (hb ++ (b.data ++ be 2 (hb ++ b.data).sum))) := by
  rw [encode_of_header henc, if_pos ⟨hn, sum_lt (encode_length _ _ henc) (encode_allBytes _ _ henc) adata hn⟩]

theorem frame_of_encode_ok {b : Block} {raw : Bytes} (h : Block.encode b = .ok raw) :
    ∃ hb, b.header.encode = .ok hb ∧ b.data.length ≤ 245 ∧ (hb ++ b.data).sum < 256 ^ 2 ∧
      raw = (10 + b.data.length) :: (hb ++ (b.data ++ be 2 (hb ++ b.data).sum)) := by
  cases hh : b.header.encode with
  | error e => rw [encode_eq, encodeW_header_error hh] at h; cases h
  | ok hb =>
    rw [encode_of_header hh] at h
    split at h
    · rename_i hc
      cases h
      exact ⟨hb, rfl, hc.1, hc.2, rfl⟩
    · cases h

/-- `Block.decode` with the generated widths (length byte 1, header 10, checksum 2) substituted; closed by `rfl`, so a change of
`length_format`, `checksum_format` or the header length in the source re-opens it -/
theorem decode_eq (raw : Bytes) : Block.decode raw =
    (if raw.length < 1 then .error .structError else
     if ofBe (raw.take 1) < 10 then .error .structError else
     if raw.length ≠ 1 + 10 + (ofBe (raw.take 1) - 10) + 2 then .error .structError else
     match SecsIHeader.decode ((raw.drop 1).take 10) with
     | .error e => .error e
     | .ok h =>
       match checksum ⟨h, (raw.drop (1 + 10)).take (ofBe (raw.take 1) - 10)⟩ with
       | .error e => .error e
       | .ok s =>
         if s ≠ ofBe (raw.drop (1 + 10 + (ofBe (raw.take 1) - 10))) then .ok none
         else .ok (some ⟨h, (raw.drop (1 + 10)).take (ofBe (raw.take 1) - 10)⟩)) := rfl

theorem decode_frame {h : Header} {hb : Bytes} (hdec : SecsIHeader.decode hb = .ok h) (henc : h.encode = .ok hb)
    (l : Nat) (data : Bytes) {ck : Bytes} (hck : ck.length = 2) :
    Block.decode (l :: (hb ++ (data ++ ck))) =
      if l = 10 + data.length then .ok (if (hb ++ data).sum = ofBe ck then some ⟨h, data⟩ else none)
      else .error .structError := by
  have hhb := encode_length _ _ henc
  have hl : ofBe ((l :: (hb ++ (data ++ ck))).take 1) = l := ofBe_single l
  have hlen : (l :: (hb ++ (data ++ ck))).length = 1 + 10 + data.length + 2 := by
    rw [List.length_cons, List.length_append, List.length_append, hhb, hck]; omega
  have hhdr : ((l :: (hb ++ (data ++ ck))).drop 1).take 10 = hb := List.take_left' hhb
  have hdata : (l :: (hb ++ (data ++ ck))).drop (1 + 10) = data ++ ck := by
    rw [← List.drop_drop, List.drop_succ_cons, List.drop_zero, List.drop_left' hhb]
  have hcks : ∀ n, (l :: (hb ++ (data ++ ck))).drop (1 + 10 + n) = (data ++ ck).drop n := fun n => by
    rw [← List.drop_drop, hdata]
  have hsum : checksum ⟨h, data⟩ = .ok (hb ++ data).sum := by simp only [checksum, henc]
  rw [decode_eq, hl, hlen, if_neg (by omega : ¬ 1 + 10 + data.length + 2 < 1)]
  by_cases hc : l = 10 + data.length
  · subst hc
    have hfit : ¬ (1 + 10 + data.length + 2 ≠ 1 + 10 + (10 + data.length - 10) + 2) := by omega
    rw [if_pos rfl, if_neg (by omega : ¬ 10 + data.length < 10), if_neg hfit, hhdr, hdec, hdata, hcks,
      Nat.add_sub_cancel_left, List.take_left' rfl, List.drop_left' rfl]
    simp only [hsum]
    by_cases hs : (hb ++ data).sum = ofBe ck
    · rw [if_pos hs, if_neg (not_not_intro hs)]
    · rw [if_neg hs, if_pos hs]
  · rw [if_neg hc]
    by_cases h10 : l < 10
    · rw [if_pos h10]
    · rw [if_neg h10, if_pos (by omega : 1 + 10 + data.length + 2 ≠ 1 + 10 + (l - 10) + 2)]

theorem exists_append_of_length {α : Type} (l : List α) (a b : Nat) (h : l.length = a + b) :
    ∃ l₁ l₂, l = l₁ ++ l₂ ∧ l₁.length = a ∧ l₂.length = b :=
  ⟨l.take a, l.drop a, (List.take_append_drop a l).symm, by rw [List.length_take_of_le (by omega)],
    by rw [List.length_drop, h, Nat.add_sub_cancel_left]⟩

theorem not_of_ite_error_eq_ok {ε α : Type} {c : Prop} [Decidable c] {e : ε} {x : Except ε α} {a : α}
    (h : (if c then .error e else x) = .ok a) : ¬ c ∧ x = .ok a := by
  by_cases hc : c
  · rw [if_pos hc] at h; cases h
  · rw [if_neg hc] at h; exact ⟨hc, h⟩

theorem frame_of_decode_ok {raw : Bytes} {o : Option Block} (hd : Block.decode raw = .ok o) :
    ∃ l hb data ck, raw = l :: (hb ++ (data ++ ck)) ∧ hb.length = 10 ∧ l = 10 + data.length ∧ ck.length = 2 := by
  obtain ⟨c1, hd⟩ := not_of_ite_error_eq_ok ((decode_eq raw).symm.trans hd)
  obtain ⟨c2, hd⟩ := not_of_ite_error_eq_ok hd
  obtain ⟨c3, -⟩ := not_of_ite_error_eq_ok hd
  cases raw with
  | nil => exact absurd Nat.zero_lt_one c1
  | cons l rest =>
    rw [List.take_succ_cons, List.take_zero, ofBe_single] at c2 c3
    obtain ⟨n, rfl⟩ := Nat.exists_eq_add_of_le (Nat.le_of_not_lt c2)
    rw [List.length_cons, Nat.add_sub_cancel_left] at c3
    obtain ⟨hb, t, rfl, hhb, ht⟩ := exists_append_of_length rest 10 (n + 2) (by omega)
    obtain ⟨data, ck, rfl, hdata, hck⟩ := exists_append_of_length t n 2 ht
    exact ⟨_, hb, data, ck, rfl, hhb, by rw [hdata], hck⟩

theorem sum_set : ∀ (l : List Nat) (i : Nat) (v : Nat) (h : i < l.length), (l.set i v).sum + l[i] = l.sum + v
  | a :: l, 0, v, h => by simp; omega
  | a :: l, i+1, v, h => by
    have := sum_set l i v (Nat.lt_of_succ_lt_succ h)
    simp only [List.set_cons_succ, List.sum_cons, List.getElem_cons_succ]; omega

theorem sum_set_ne {l : List Nat} {i v : Nat} (h : i < l.length) (hne : l[i] ≠ v) : (l.set i v).sum ≠ l.sum := by
  have := sum_set l i v h; omega

theorem ofBe_set_ne {l : Bytes} {i v : Nat} (hl : AllBytes l) (hv : v < 256) (h : i < l.length) (hne : l[i] ≠ v) :
    ofBe (l.set i v) ≠ ofBe l := by
  intro e
  -- `be` inverts `ofBe` on byte strings of one length, so equal values mean equal strings
  have := be_ofBe _ (hl.set i hv)
  rw [e, List.length_set, be_ofBe l hl] at this
  have h3 := congrArg (·[i]?) this
  simp only [List.getElem?_set_self h, List.getElem?_eq_getElem h, Option.some.injEq] at h3
  exact hne h3

/-- **One altered byte.**  In the encoding of a block, replace the byte at offset `i` by a different byte: an altered length byte
makes `Block.decode` raise `struct.error`, an altered header, data or checksum byte makes it return `None`. -/
theorem decode_set {b : Block} {raw : Bytes} (henc : Block.encode b = .ok raw) {i v : Nat} (hi : i < raw.length) (hv : v < 256)
    (hne : raw[i]? ≠ some v) :
    Block.decode (raw.set i v) = if i = 0 then .error .structError else .ok none := by
  obtain ⟨hb, hh, hn, hsum, rfl⟩ := frame_of_encode_ok henc
  have hhb := encode_length _ _ hh
  have ahb := encode_allBytes _ _ hh
  have hS := ofBe_be_of_lt 2 _ hsum
  -- the header `decode` reads off `hb` need not be `b.header` (that one is not assumed in range), but it encodes to `hb` too
  obtain ⟨_, hdec, _, hh'⟩ := encode_decode hb hhb ahb
  rcases i with _ | j
  · rw [List.set_cons_zero, decode_frame hdec hh' v b.data (be_length ..), if_neg (fun e => hne (by rw [e]; rfl)), if_pos rfl]
  · rw [List.set_cons_succ, if_neg (Nat.succ_ne_zero j), ← List.append_assoc, List.set_append]
    rw [List.getElem?_cons_succ, ← List.append_assoc] at hne
    rw [List.length_cons, List.length_append, List.length_append, be_length, hhb] at hi
    split
    · -- a header or data byte: the sum changes, the checksum field does not
      rename_i hj
      rw [List.getElem?_append_left hj, List.getElem?_eq_getElem hj] at hne
      have hlen : ((hb ++ b.data).set j v).length = 10 + b.data.length := by rw [List.length_set, List.length_append, hhb]
      obtain ⟨_, hdec', _, henc'⟩ := encode_decode (((hb ++ b.data).set j v).take 10) (by rw [List.length_take, hlen]; omega)
        (by rw [List.take_set, List.take_left' hhb]; exact ahb.set j hv)
      have hds := decode_frame hdec' henc' (10 + b.data.length) (((hb ++ b.data).set j v).drop 10) (be_length 2 (hb ++ b.data).sum)
      rw [← List.append_assoc, List.take_append_drop, List.length_drop, hlen, if_pos (by omega), hS,
        if_neg (sum_set_ne hj (fun e => hne (congrArg some e)))] at hds
      exact hds
    · -- a checksum byte: the checksum field changes, the sum does not
      rename_i hj
      have hk : j - (hb ++ b.data).length < (be 2 (hb ++ b.data).sum).length := by
        rw [be_length, List.length_append, hhb]; omega
      rw [List.getElem?_append_right (Nat.le_of_not_lt hj), List.getElem?_eq_getElem hk] at hne
      rw [List.append_assoc, decode_frame hdec hh' _ _ (by rw [List.length_set, be_length]), if_pos rfl,
        if_neg (fun e => ofBe_set_ne (be_allBytes _ _) hv hk (fun e => hne (congrArg some e)) (by rw [← e, hS]))]

end SecsModel.Proofs.SecsI
