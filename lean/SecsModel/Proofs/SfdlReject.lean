import SecsModel.Proofs.SfdlParse
/-!
# Proofs.SfdlReject — what the validation (`_process_tokens`) never accepts

* a tree that uses an unknown item name (`procElem_accepts`, `validate_unknown`);
* any element list in which every non-empty prefix has more `<` than `>` (`walk`, `validate_open`): an accepted element is
  bracket-balanced, so it would bring the depth back to 0;
* hence every variant of a definition's tokens with one closing bracket deleted (`dels`, `validate_missing_close`) and every
  proper prefix (`validate_truncated`: a prefix of the variant without the last bracket).
`procElem_accepts`, `procLoop_accepts`, `walk_procElem`, `walk_procLoop` hold for every fuel value, so the errors of the
`validate_*` theorems are not artefacts of the fuel `validate` supplies.
-/
namespace SecsModel.Proofs.Sfdl
open SecsModel SecsModel.Spec.Sfdl SecsModel.Model.Sfdl

def unknownItem (n : Name) : Bool := !attrKnown n && n != capL

def hasUnknown (d : Def) : Bool := (itemNames d).any unknownItem

theorem hasUnknown_item (n : Name) : hasUnknown (.item n) = unknownItem n := by simp [hasUnknown, itemNames]
theorem hasUnknown_list (nm : Option Name) (ms : List Def) : hasUnknown (.list nm ms) = (itemNamesL ms).any unknownItem := by
  simp [hasUnknown, itemNames]
theorem anyUnknown_cons (m : Def) (ms : List Def) :
    (itemNamesL (m :: ms)).any unknownItem = (hasUnknown m || (itemNamesL ms).any unknownItem) := by
  simp [hasUnknown, itemNamesL, List.any_append]

theorem procLoop_at_gt {f : Nat} {rest es' : List Name} {ts : List Tok} (h : procLoop f (gt :: rest) = .ok (ts, es')) :
    es' = gt :: rest := by
  cases f with
  | zero => rw [procLoop_zero] at h; cases h
  | succ f => cases h; rfl

/-- `procElem` takes the word after `L` for the list's name unless it is a bracket (`procElem_ok`).  If the names are no brackets
and the body starts with one, that split is `nm.toList ++ body`. -/
theorem header_body {nm : Option Name} (hnm : ∀ x ∈ nm, inLtGt x = false) {body : List Name} {k : Name} {tl : List Name}
    (hb : ∃ k' tl', body = k' :: tl' ∧ inLtGt k' = true) (h : nm.toList ++ body = k :: tl) :
    (if inLtGt k then k :: tl else tl) = body := by
  cases nm with
  | none =>
    obtain ⟨k', tl', rfl, hk⟩ := hb
    cases h
    rw [if_pos hk]
  | some x =>
    obtain ⟨rfl, rfl⟩ := List.cons.inj (show x :: body = k :: tl from h)
    rw [if_neg (by simp [hnm x rfl])]

mutual
theorem procElem_accepts : ∀ (d : Def) (f : Nat) (rest r : List Name) (ts : List Tok), wordsOk d = true →
    procElem f (tokensOf d ++ rest) = .ok (ts, r) → hasUnknown d = false ∧ r = rest
  | _, 0, _, _, _, _, h => by rw [procElem_zero] at h; cases h
  | .item n, f + 1, rest, r, ts, _, h => by
    obtain ⟨n', k, tl, heq, hcase⟩ := procElem_ok h
    cases heq
    rw [hasUnknown_item, unknownItem]
    rcases hcase with ⟨hn, ts1, hl⟩ | ⟨-, ha, hr⟩
    · -- `< L >` is read as an empty list
      exact ⟨by simp [hn], (List.cons.inj (procLoop_at_gt hl)).2⟩
    · cases hr
      exact ⟨by simp [ha], rfl⟩
  | .list nm ms, f + 1, rest, r, ts, hw, h => by
    obtain ⟨hx, hms⟩ := wordsOk_list.mp hw
    rw [tokensOf_list] at h
    obtain ⟨n', k, tl, heq, ⟨-, ts1, hl⟩ | ⟨hn, -, -⟩⟩ := procElem_ok h
    case inr => exact absurd (List.cons.inj (List.cons.inj heq).2).1 (Ne.symm hn)
    obtain ⟨-, hkt⟩ := List.cons.inj (List.cons.inj heq).2
    rw [header_body (fun x hx' => word_not_ltgt (hx x hx')) (tokensOfList_head ms rest) hkt] at hl
    obtain ⟨hu, hr⟩ := procLoop_accepts ms f rest _ ts1 hms hl
    exact ⟨by rw [hasUnknown_list, hu], (List.cons.inj hr).2⟩
theorem procLoop_accepts : ∀ (ms : List Def) (f : Nat) (rest es' : List Name) (ts : List Tok), wordsOkL ms = true →
    procLoop f (tokensOfList ms ++ gt :: rest) = .ok (ts, es') →
    (itemNamesL ms).any unknownItem = false ∧ es' = gt :: rest
  | [], f, rest, es', ts, _, h => ⟨rfl, procLoop_at_gt h⟩
  | _ :: _, 0, _, _, _, _, h => by rw [procLoop_zero] at h; cases h
  | m :: ms, f + 1, rest, es', ts, hw, h => by
    obtain ⟨hm, hms⟩ := wordsOkL_cons.mp hw
    rw [tokensOfList, List.append_assoc] at h
    rcases procLoop_ok h with ⟨_, heq, -⟩ | ⟨ts1, es1, ts2, he, hl⟩
    · obtain ⟨tl, htl⟩ := tokensOf_head m
      rw [htl] at heq
      exact absurd (List.cons.inj heq).1 (by decide)
    · obtain ⟨hu1, rfl⟩ := procElem_accepts m f _ es1 ts1 hm he
      obtain ⟨hu2, hr⟩ := procLoop_accepts ms f rest es' ts2 hms hl
      exact ⟨by rw [anyUnknown_cons, hu1, hu2]; rfl, hr⟩
end

theorem procLoop_dicho : ∀ (ms : List Def) (f : Nat) (rest : List Name), wordsOkL ms = true →
    (∃ e, procLoop f (tokensOfList ms ++ gt :: rest) = .error e)
    ∨ ((itemNamesL ms).any unknownItem = false ∧ ∃ ts, procLoop f (tokensOfList ms ++ gt :: rest) = .ok (ts, gt :: rest)) := by
  intro ms f rest hw
  cases h : procLoop f (tokensOfList ms ++ gt :: rest) with
  | error e => exact Or.inl ⟨e, rfl⟩
  | ok p =>
    obtain ⟨hu, hr⟩ := procLoop_accepts ms f rest p.2 p.1 hw h
    exact Or.inr ⟨hu, p.1, by rw [← hr]⟩

theorem validate_unknown (d : Def) (hw : wordsOk d = true) (hu : hasUnknown d = true) :
    ∃ e, validate (tokensOf d) = .error e := by
  unfold validate
  split
  · rename_i e _; exact ⟨e, rfl⟩
  · rename_i ts r h
    have := (procElem_accepts d _ [] r ts hw (by rw [List.append_nil]; exact h)).1
    rw [hu] at this
    cases this

/-- walk over the elements from bracket depth `n`; fails as soon as the depth is 0 after an element.  `walk 0 es = some _`
says: every non-empty prefix of `es` has more `<` than `>` -/
def walk : Nat → List Name → Option Nat
  | n, [] => some n
  | n, e :: es =>
    if e = lt then walk (n + 1) es
    else if e = gt then (if 2 ≤ n then walk (n - 1) es else none)
    else (if 1 ≤ n then walk n es else none)

theorem walk_lt (n : Nat) (es : List Name) : walk n (lt :: es) = walk (n + 1) es := by simp [walk]
theorem walk_gt (n : Nat) (es : List Name) : walk (n + 1) (gt :: es) = if n = 0 then none else walk n es := by
  cases n <;> simp [walk]
theorem notLtGt_ne {k : Name} (h : inLtGt k = false) : k ≠ lt ∧ k ≠ gt := by
  simp only [inLtGt, Bool.or_eq_false_iff, beq_eq_false_iff_ne] at h
  obtain ⟨⟨⟨-, hlt⟩, hgt⟩, -⟩ := h
  exact ⟨hlt, hgt⟩

theorem word_ne {x : Name} (h : isWord x = true) : x ≠ lt ∧ x ≠ gt := notLtGt_ne (word_not_ltgt h)

theorem walk_word (n : Nat) {w : Name} (hw : w ≠ lt ∧ w ≠ gt) (es : List Name) : walk (n + 1) (w :: es) = walk (n + 1) es := by
  simp [walk, hw]

theorem walk_L (n : Nat) (es : List Name) : walk (n + 1) (capL :: es) = walk (n + 1) es :=
  walk_word n ⟨by decide, by decide⟩ es

theorem walk_name (n : Nat) {nm : Option Name} (hnm : ∀ x ∈ nm, isWord x = true) (es : List Name) :
    walk (n + 1) (nm.toList ++ es) = walk (n + 1) es := by
  cases nm with
  | none => rfl
  | some x => exact walk_word n (word_ne (hnm x rfl)) es

mutual
/-- an element that validates is bracket-balanced: from depth 0 the walk fails at its closing bracket, from a positive depth it
continues behind it -/
theorem walk_procElem : ∀ (f : Nat) (es rest : List Name) (ts : List Tok), procElem f es = .ok (ts, rest) →
    ∀ n, walk n es = if n = 0 then none else walk n rest
  | 0, es, rest, ts, h => by rw [procElem_zero] at h; cases h
  | f + 1, es, rest, ts, h => by
    intro n
    obtain ⟨nm, k, tl, rfl, ⟨hn, ts1, hl⟩ | ⟨-, ha, hr⟩⟩ := procElem_ok h
    · have hw := walk_procLoop f _ _ ts1 hl (n + 1) (by omega)
      rw [walk_lt, hn, walk_L]
      cases hk : inLtGt k with
      | true => rw [hk, if_pos rfl] at hw; rw [hw, walk_gt]
      | false =>
        rw [hk, if_neg (by decide)] at hw
        rw [walk_word n (notLtGt_ne hk), hw, walk_gt]
    · rw [walk_lt, walk_word n (attr_not_bracket ha), hr, walk_gt]
theorem walk_procLoop : ∀ (f : Nat) (es rest : List Name) (ts : List Tok), procLoop f es = .ok (ts, rest) →
    ∀ n, 1 ≤ n → walk n es = walk n rest
  | 0, es, rest, ts, h => by rw [procLoop_zero] at h; cases h
  | f + 1, es, rest, ts, h => by
    intro n hn
    rcases procLoop_ok h with ⟨tl, -, rfl⟩ | ⟨ts1, es1, ts2, he, hl⟩
    · rfl
    · rw [walk_procElem f es es1 ts1 he n, if_neg (by omega), walk_procLoop f es1 rest ts2 hl n hn]
end

theorem validate_open (es : List Name) (m : Nat) (h : walk 0 es = some m) : ∃ e, validate es = .error e := by
  unfold validate
  split
  · rename_i e _; exact ⟨e, rfl⟩
  · rename_i ts rest hp
    have := walk_procElem _ es rest ts hp 0
    rw [h] at this
    simp at this

mutual
theorem walk_def : ∀ (d : Def) (n : Nat) (rest : List Name), wordsOk d = true →
    walk (n + 1) (tokensOf d ++ rest) = walk (n + 1) rest
  | .item nm, n, rest, hw => by
    rw [wordsOk] at hw
    rw [tokensOf]
    simp only [List.cons_append, List.nil_append]
    rw [walk_lt, walk_word _ (word_ne hw), walk_gt]
    simp
  | .list nm ms, n, rest, hw => by
    obtain ⟨hx, hms⟩ := wordsOk_list.mp hw
    rw [tokensOf_list]
    rw [walk_lt, walk_L, walk_name _ hx, walk_members ms (n + 1) _ hms, walk_gt]
    simp
theorem walk_members : ∀ (ms : List Def) (n : Nat) (rest : List Name), wordsOkL ms = true →
    walk (n + 1) (tokensOfList ms ++ rest) = walk (n + 1) rest
  | [], n, rest, _ => by simp [tokensOfList]
  | m :: ms, n, rest, hw => by
    obtain ⟨hm, hms⟩ := wordsOkL_cons.mp hw
    rw [tokensOfList, List.append_assoc, walk_def m n _ hm, walk_members ms n rest hms]
end

theorem walk_prefix (a b : List Name) : ∀ n m, walk n (a ++ b) = some m → ∃ m', walk n a = some m' := by
  induction a with
  | nil => intro n m _; exact ⟨n, rfl⟩
  | cons e t ih =>
    intro n m h
    simp only [List.cons_append, walk] at h ⊢
    by_cases h1 : e = lt
    · simp only [h1, if_true] at h ⊢; exact ih _ _ h
    · by_cases h2 : e = gt
      · simp only [h2, if_true] at h ⊢
        by_cases h3 : 2 ≤ n
        · simp only [h3, if_true] at h ⊢; exact ih _ _ h
        · simp [h3] at h
      · simp only [h1, h2, if_false] at h ⊢
        by_cases h3 : 1 ≤ n
        · simp only [h3, if_true] at h ⊢; exact ih _ _ h
        · simp [h3] at h

mutual
/-- the token lists obtained from a definition by deleting one closing bracket (any one) -/
def dels : Def → List (List Name)
  | .item n => [[lt, n]]
  | .list nm ms =>
    (lt :: capL :: ((match nm with | none => [] | some x => [x]) ++ tokensOfList ms))
      :: (delsL ms).map (fun b => lt :: capL :: ((match nm with | none => [] | some x => [x]) ++ (b ++ [gt])))
def delsL : List Def → List (List Name)
  | [] => []
  | m :: ms => (dels m).map (fun t => t ++ tokensOfList ms) ++ (delsL ms).map (fun b => tokensOf m ++ b)
end

theorem dels_list (nm : Option Name) (ms : List Def) :
    dels (.list nm ms) = (lt :: capL :: (nm.toList ++ tokensOfList ms))
      :: (delsL ms).map (fun b => lt :: capL :: (nm.toList ++ (b ++ [gt]))) := by
  cases nm <;> rfl

mutual
theorem walk_dels : ∀ (d : Def) (t : List Name) (n : Nat) (rest : List Name), wordsOk d = true → t ∈ dels d →
    walk n (t ++ rest) = walk (n + 1) rest
  | .item nm, t, n, rest, hw, ht => by
    rw [wordsOk] at hw
    simp only [dels, List.mem_singleton] at ht
    subst ht
    simp only [List.cons_append, List.nil_append]
    rw [walk_lt, walk_word _ (word_ne hw)]
  | .list nm ms, t, n, rest, hw, ht => by
    obtain ⟨hx, hms⟩ := wordsOk_list.mp hw
    simp only [dels_list, List.mem_cons, List.mem_map] at ht
    rcases ht with rfl | ⟨b, hb, rfl⟩
    · simp only [List.cons_append, List.append_assoc]
      rw [walk_lt, walk_L, walk_name _ hx, walk_members ms n _ hms]
    · simp only [List.cons_append, List.append_assoc, List.nil_append]
      rw [walk_lt, walk_L, walk_name _ hx, walk_delsL ms b n _ hms hb, walk_gt]
      simp
theorem walk_delsL : ∀ (ms : List Def) (b : List Name) (n : Nat) (rest : List Name), wordsOkL ms = true → b ∈ delsL ms →
    walk (n + 1) (b ++ rest) = walk (n + 2) rest
  | [], b, n, rest, _, hb => by simp [delsL] at hb
  | m :: ms, b, n, rest, hw, hb => by
    obtain ⟨hm, hms⟩ := wordsOkL_cons.mp hw
    simp only [delsL, List.mem_append, List.mem_map] at hb
    rcases hb with ⟨t, ht, rfl⟩ | ⟨b', hb', rfl⟩
    · rw [List.append_assoc, walk_dels m t (n + 1) _ hm ht, walk_members ms (n + 1) rest hms]
    · rw [List.append_assoc, walk_def m n _ hm, walk_delsL ms b' n rest hms hb']
end

theorem walk_dels_top (d : Def) (hw : wordsOk d = true) (t : List Name) (ht : t ∈ dels d) : walk 0 t = some 1 := by
  have h := walk_dels d t 0 [] hw ht
  rwa [List.append_nil] at h

theorem validate_missing_close (d : Def) (hw : wordsOk d = true) (t : List Name) (ht : t ∈ dels d) :
    ∃ e, validate t = .error e :=
  validate_open t 1 (walk_dels_top d hw t ht)

theorem dels_last (d : Def) : ∃ t ∈ dels d, tokensOf d = t ++ [gt] := by
  cases d with
  | item n => exact ⟨[lt, n], by simp [dels], rfl⟩
  | list nm ms =>
    exact ⟨_, by rw [dels_list]; exact List.mem_cons_self, by rw [← List.append_nil (tokensOf _), tokensOf_list]; simp⟩

/-- **a truncated definition is rejected**: every proper prefix of the tokens of a definition (it is a prefix of the tokens
without the last bracket) -/
theorem validate_truncated (d : Def) (hw : wordsOk d = true) (p s : List Name) (h : tokensOf d = p ++ s) (hs : s ≠ []) :
    ∃ e, validate p = .error e := by
  obtain ⟨t, ht, heq⟩ := dels_last d
  have hlen : p.length ≤ t.length := by
    have h1 := congrArg List.length (h.symm.trans heq)
    have h2 := List.length_pos_iff.mpr hs
    simp only [List.length_append, List.length_cons, List.length_nil] at h1
    omega
  obtain ⟨u, rfl⟩ := List.prefix_of_prefix_length_le ⟨s, h.symm.trans heq⟩ (List.prefix_append t [gt]) hlen
  obtain ⟨m, hm⟩ := walk_prefix p u 0 1 (walk_dels_top d hw _ ht)
  exact validate_open p m hm

end SecsModel.Proofs.Sfdl
