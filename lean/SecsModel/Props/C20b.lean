import SecsModel.Proofs.PairBridge
/-!
# C20b — one endpoint of the abstract pair model IS the product of the C05 and C07 endpoint models

`Model.Pair` (C20) is validated against the real pair only through observed transition traces.  Here every step an endpoint of
`Model.Pair` can take is shown to be what the product of `Model.Hsms.step Defects.none` (C05, correspondence-checked against the real
`HsmsProtocol`) and `Model.GemComm.step` (C07, correspondence-checked against the real `GemHandler`) does on the corresponding inputs
(`Proofs/PairBridge.lean`: `prodStep`, `absEnd`, `Coupled`, `absFrames`, and what the abstraction forgets).

Shape of every theorem: from a coupled (session, handler) state the product lands in a coupled state whose abstraction is the `Pair`
endpoint after the step, and the frames the product writes abstract to the messages `Pair` sends.  Finite case analysis over
session state × communication state × message; counters, open-request lists, system bytes and the queue are symbolic.  The theorems are
per endpoint, against `Pair.handle`, `closeEnd` and the updates `Pair.step` makes in place; `Pair.step` itself occurs only in
`pair_delay_frames` and, evaluated, in the two delay witnesses.
-/
namespace SecsModel.Props.C20b
open SecsModel SecsModel.Proofs.PairBridge SecsModel.Proofs.HsmsFsm SecsModel.Proofs.GemComm
open SecsModel.Model.Hsms (St In Out Defects SType isOpen)
open SecsModel.Spec.E30Comm (Input Output Trans allowed)
open SecsModel.Model.GemComm (State Cfg)

set_option hygiene false
-- destructures a coupled state into its finite components `c`, `gc` with the coupling facts substituted; no proof below calls it
-- (they take a coupled state apart with `coupled_iff`)
local macro "bridge_intro" cfg:ident hcfg:ident h:ident g:ident hc:ident : tactic => `(tactic|
  (obtain ⟨role, creq, ucb, sc, cg⟩ := $cfg
   obtain ⟨h1, h2, h3, h4⟩ := $hcfg
   simp only at h1 h2 h3 h4; subst h1 h2 h3
   obtain ⟨c, dc, ac, ctr, opn, lts, lto⟩ := $h
   obtain ⟨gc, cn, sl, a, b, n, ms, q⟩ := $g
   simp only [Coupled, coupledB, Bool.and_eq_true, beq_iff_eq, Bool.not_eq_true', Bool.or_eq_true, decide_eq_true_eq] at $hc:ident
   obtain ⟨⟨⟨⟨⟨⟨⟨⟨hl, hcn⟩, ho⟩, he⟩, ht⟩, hd⟩, hs⟩, hdc⟩, hq⟩ := $hc
   subst hl hcn he hdc
   rw [ht, hd]))

set_option hygiene true

/-- **A message delivered to a coupled endpoint.**  The product handles the session input the message is (`inputOf`: any system
bytes; for an S1F14 no local requester may wait on them — S1F13 is sent with `send_stream_function`, which opens no transaction) and
feeds the handler what the session layer hands up (`communicating` ⇒ `linkSelected`, `message_received` ⇒ `rx 1 13/14`).  A Select.rsp
is the answer to the Select.req this endpoint has open (`hsel`; in `Model.Pair` a `selRsp` is only ever sent in answer to a `selReq` —
an unsolicited one is dropped by the code, `C05_unsolicited_rsp_silent`).  The result is
coupled, its abstraction is `(Pair.handle e m).1`, and the frames written are exactly `(Pair.handle e m).2`. -/
theorem sim_deliver (cfg : Cfg) (hcfg : Shipped cfg) (h : St) (g : State) (en : Bool) (hc : Coupled h g en)
    (m : Model.Pair.Msg) (sys : Int) (k : Nat) (hw : (∃ ok, m = .s1f14 ok) → isOpen h sys = false)
    (hsel : m = .selRsp → Model.Hsms.isOpenKind h sys .select = true) :
    let r := prodDeliver cfg h g m sys k
    Coupled r.1.1 r.1.2 en
    ∧ absEnd r.1.1 r.1.2 en = (Model.Pair.handle (absEnd h g en) m).1
    ∧ absFrames r.2.1 r.2.2 = (Model.Pair.handle (absEnd h g en) m).2 := by
  obtain ⟨d, n, m', q, rfl, rfl, ho, hcomm, hd, hq⟩ := coupled_iff.mp hc
  have hv := session_deliver h hd m sys k hw hsel
  obtain ⟨c, dc, ac, ctr, opn, lts, lto⟩ := h
  cases m <;> cases c <;> simp only at hv
  case selReq.notSelected | selRsp.notSelected =>
    obtain rfl : q = [] := hq.resolve_left nofun
    rcases coupled_cases ho hcomm with ⟨rfl, ⟨⟩⟩ | rfl | rfl | rfl | rfl <;>
      exact prodStep_sim hv (runG_one.trans coupledState_linkSelected) (.inr rfl) rfl rfl
  case s1f13.selected =>
    rcases coupled_cases ho hcomm with ⟨rfl, -⟩ | rfl | rfl | rfl | rfl <;>
      exact prodStep_sim hv (runG_one.trans (coupledState_rx13 hcfg ..)) hq rfl rfl
  case s1f14.selected ok =>
    have hrx := fun k => coupledState_rx14 (d := d) (n := n) (m := m') (q := q) hcfg false sys.toNat k
    cases ok
    · obtain ⟨o, hstep, hnone⟩ := hrx (k + 1)
      rcases coupled_cases ho hcomm with ⟨rfl, -⟩ | rfl | rfl | rfl | rfl <;>
        exact prodStep_sim hv (runG_one.trans hstep) hq rfl (by rw [hnone]; rfl) (fun _ => rfl)
    · obtain ⟨o, hstep, hnone⟩ := hrx 0
      rcases coupled_cases ho hcomm with ⟨rfl, -⟩ | rfl | rfl | rfl | rfl <;>
        exact prodStep_sim hv (runG_one.trans hstep) hq rfl (by rw [hnone]; rfl) (fun _ => rfl)
  all_goals exact prodStep_sim hv runG_nil hq rfl rfl hcomm ho

/-- **`linkUp`** (per endpoint): the session input `connect` (the active side's select thread is part of it); its `connected` event
reaches the handler as `linkConnected`.  The endpoint becomes NOT SELECTED, the communication state is untouched, the active side writes
a Select.req — and the queued S1F13 are flushed (`Proofs/PairBridge.lean`, "Who runs the receiver thread"; the order of the two is the
convention of `absFrames`).  With `queued = []` the frames are exactly the pair model's. -/
theorem sim_linkUp (cfg : Cfg) (hcfg : Shipped cfg) (h : St) (g : State) (en : Bool) (hc : Coupled h g en) (hn : h.conn = .notConnected) :
    let r := prodStep cfg h g .connect none
    Coupled r.1.1 r.1.2 en
    ∧ absEnd r.1.1 r.1.2 en = { absEnd h g en with conn := .ns }
    ∧ absFrames r.2.1 r.2.2 = (if h.active then [.selReq] else []) ++ g.queued.map (fun _ => .s1f13) := by
  obtain ⟨d, n, m, q, rfl, rfl, ho, hcomm, hd, hq⟩ := coupled_iff.mp hc
  have hv := session_connect h none hd hn
  obtain ⟨c, dc, ac, ctr, opn, lts, lto⟩ := h
  subst hn
  exact prodStep_sim hv (runG_one.trans coupledState_linkConnected) (.inr rfl) rfl
    (by simp [coupledState, List.filterMap_map, Function.comp_def, absGemOut]) (fun e => nomatch hcomm e) ho

/-- **`linkDown`** (per endpoint, also the other side of a `disable`): the session input `peerClose`; the `disconnected` event reaches
the handler as `linkLost`.  The abstraction of the result is `Pair.closeEnd`; what is written (Separate.req) is not in the pair's vocabulary.
Holds in every coupled state (a NOT CONNECTED endpoint is left alone by both). -/
theorem sim_linkDown (cfg : Cfg) (hcfg : Shipped cfg) (h : St) (g : State) (en : Bool) (hc : Coupled h g en) :
    let r := prodStep cfg h g .peerClose none
    Coupled r.1.1 r.1.2 en
    ∧ absEnd r.1.1 r.1.2 en = Model.Pair.closeEnd (absEnd h g en)
    ∧ absFrames r.2.1 r.2.2 = [] := by
  obtain ⟨d, n, m, q, rfl, rfl, ho, hcomm, hd, hq⟩ := coupled_iff.mp hc
  have hv := session_peerClose h none hd
  obtain ⟨c, dc, ac, ctr, opn, lts, lto⟩ := h
  cases c <;> simp only [reduceCtorEq, ↓reduceIte] at hv
  · rcases coupled_cases ho hcomm with ⟨rfl, ⟨⟩⟩ | rfl | rfl | rfl | rfl <;> exact prodStep_sim hv runG_nil (.inl rfl) rfl rfl
  all_goals
    rcases coupled_cases ho hcomm with ⟨rfl, ⟨⟩⟩ | rfl | rfl | rfl | rfl <;>
      exact prodStep_sim hv (runG_one.trans (coupledState_linkLost hcfg)) (.inl rfl) rfl rfl

/-- **`t3`**: the handler input `t3Expired`.  In WAIT_CRA the endpoint goes to WAIT_DELAY; in every other state the timer is not pending
and nothing happens (`Pair.step` has no `t3` step there). -/
theorem sim_t3 (cfg : Cfg) (hcfg : Shipped cfg) (h : St) (g : State) (en : Bool) (hc : Coupled h g en) :
    let r := gemStep cfg h g .t3Expired
    let e := absEnd h g en
    Coupled r.1.1 r.1.2 en
    ∧ absEnd r.1.1 r.1.2 en = (if e.comm = .wcra then { e with comm := .wdelay } else e)
    ∧ absFrames r.2.1 r.2.2 = [] := by
  obtain ⟨d, n, m, q, rfl, rfl, ho, hcomm, hd, hq⟩ := coupled_iff.mp hc
  simp only [gemStep, coupledState_t3]
  rcases coupled_cases ho hcomm with ⟨rfl, hs⟩ | rfl | rfl | rfl | rfl
  · exact ⟨coupled_mk rfl hd (fun _ => hs) hq, rfl, rfl⟩
  all_goals exact ⟨coupled_mk rfl hd nofun hq, rfl, rfl⟩

/-- **`delay`**: the handler input `delayExpired`.  In WAIT_DELAY the endpoint goes to WAIT_CRA (elsewhere nothing happens); the S1F13 of
the new attempt is written or queued by the rule of `Pair.step` (`pair_delay_frames`). -/
theorem sim_delay (cfg : Cfg) (hcfg : Shipped cfg) (h : St) (g : State) (en : Bool) (hc : Coupled h g en) :
    let r := gemStep cfg h g .delayExpired
    let e := absEnd h g en
    Coupled r.1.1 r.1.2 en
    ∧ absEnd r.1.1 r.1.2 en = (if e.comm = .wdelay then { e with comm := .wcra } else e)
    ∧ absFrames r.2.1 r.2.2 = (if e.comm = .wdelay ∧ e.conn ≠ .nc then [.s1f13] else [])
    ∧ r.1.2.queued = (if e.comm = .wdelay ∧ e.conn = .nc then g.queued ++ [g.nextSys] else g.queued) := by
  obtain ⟨c, dc, ac, ctr, opn, lts, lto⟩ := h
  obtain ⟨d, n, m, q, rfl, rfl, ho, hcomm, hd, hq⟩ := coupled_iff.mp hc
  simp only [gemStep, coupledState_delay]
  cases c
  · rcases coupled_cases ho hcomm with ⟨rfl, ⟨⟩⟩ | rfl | rfl | rfl | rfl <;>
      exact ⟨coupled_mk rfl hd (by decide) (.inl rfl), rfl, rfl, rfl⟩
  all_goals
    rcases coupled_cases ho hcomm with ⟨rfl, ⟨⟩⟩ | rfl | rfl | rfl | rfl <;> exact ⟨coupled_mk rfl hd (by decide) hq, rfl, rfl, rfl⟩

/-- what `Pair.step (.delay x)` does to the acting end and its outbound channel: the same state change and the same frame rule as the
product (`sim_delay`). -/
theorem pair_delay_frames (p : Model.Pair.Pair) (x : Model.Pair.Side) (p' : Model.Pair.Pair) (hs : Model.Pair.step p (.delay x) = some p') :
    (p.get x).comm = .wdelay
    ∧ p'.get x = { p.get x with comm := .wcra }
    ∧ (match x with | .A => p'.ab | .B => p'.ba)
        = (match x with | .A => p.ab | .B => p.ba) ++ (if (p.get x).conn ≠ .nc then [.s1f13] else []) := by
  simp only [Model.Pair.step] at hs
  by_cases hw : (p.get x).comm = .wdelay
  · rw [if_pos hw] at hs
    injection hs with hs
    subst hs
    by_cases hn : (p.get x).conn = .nc <;> cases x <;>
      simp_all [Model.Pair.Pair.get, Model.Pair.Pair.set, Model.Pair.Pair.send]
  · rw [if_neg hw] at hs; cases hs

/-- **`enable`**: `GemHandler.enable()` — the handler input `enable` (the protocol's `enable()` only arms the connection). -/
theorem sim_enable (cfg : Cfg) (hcfg : Shipped cfg) (h : St) (g : State) (en : Bool) (hc : Coupled h g en) (hen : en = false) :
    let r := gemStep cfg h g .enable
    Coupled r.1.1 r.1.2 true
    ∧ absEnd r.1.1 r.1.2 true = { absEnd h g en with en := true, comm := .notc }
    ∧ absFrames r.2.1 r.2.2 = [] := by
  obtain ⟨d, n, m, q, rfl, rfl, ho, hcomm, hd, hq⟩ := coupled_iff.mp hc
  obtain rfl : d = .disabled := by simpa using hen
  simp only [gemStep, coupledState_enable]
  exact ⟨coupled_mk rfl hd nofun hq, rfl, rfl⟩

/-- **`disable`** (the disabling endpoint): `GemHandler.disable()` = local close of the session (begin, end; the `disconnected` event
reaches the handler as `linkLost`), then `_communication_state.disable()`.  The peer's side of it is `sim_linkDown`.  (`hen` is not used:
disabling a disabled endpoint is simulated as well.) -/
theorem sim_disable (cfg : Cfg) (hcfg : Shipped cfg) (h : St) (g : State) (en : Bool) (hc : Coupled h g en) (hen : en = true) :
    let r := prodDisable cfg h g
    Coupled r.1.1 r.1.2 false
    ∧ absEnd r.1.1 r.1.2 false = { absEnd h g en with en := false, conn := .nc, comm := .dis }
    ∧ absFrames r.2.1 r.2.2 = [] := by
  obtain ⟨hc1, he1, hf1⟩ := sim_linkDown cfg hcfg h g en hc
  obtain ⟨d, n, m, q, hg1, -, -, -, hd, hq⟩ := coupled_iff.mp hc1
  simp only [prodDisable_eq, hg1, coupledState_disable] at he1 hf1 ⊢
  refine ⟨coupled_mk rfl hd nofun hq, ?_, ?_⟩
  · exact congrArg (fun e => { e with en := false, comm := Model.Pair.Comm.dis }) he1
  · simp only [absFrames, List.filterMap_append] at hf1 ⊢
    rw [← List.append_assoc, hf1]
    split <;> rfl

/-- the configuration of the shipped code used by the examples (an equipment; the role plays no part) -/
def cfgShipped : Cfg := { commackGate := true }

example : Shipped cfgShipped := by decide

/-- a coupled endpoint that is connected but NOT SELECTED and waits in WAIT_DELAY (reached by: T3 in WAIT_CRA, link lost, link up) -/
def hNs : St := ⟨.notSelected, false, false, 1000, [], false, 0⟩
def gDelay (connected : Bool) : State := { comm := .waitDelay, connected := connected, delayArmed := true, nextSys := 3 }

/-- **Agreement (NOT SELECTED, WAIT_DELAY, delay expires).**  The product writes the S1F13 at once, as `Pair.step` does; nothing is
queued, and the selecting step afterwards writes only the Select.rsp in both. -/
theorem delay_not_selected_agrees :
    Coupled hNs (gDelay true) true
    ∧ absFrames (gemStep cfgShipped hNs (gDelay true) .delayExpired).2.1 (gemStep cfgShipped hNs (gDelay true) .delayExpired).2.2 = [.s1f13]
    ∧ (gemStep cfgShipped hNs (gDelay true) .delayExpired).1.2.queued = []
    ∧ ((Model.Pair.step ⟨absEnd hNs (gDelay true) true, ⟨true, true, .ns, .notc⟩, [], []⟩ (.delay .A)).map (·.ab)) = some [.s1f13]
    ∧ (let g1 := (gemStep cfgShipped hNs (gDelay true) .delayExpired).1.2
       let r := prodDeliver cfgShipped hNs g1 .selReq 7 0
       absFrames r.2.1 r.2.2 = [.selRsp] ∧ (Model.Pair.handle (absEnd hNs g1 true) .selReq).2 = [.selRsp]) := by
  decide +kernel

/-- **What `Model.Pair` forgets (NOT CONNECTED, WAIT_DELAY, delay expires).**  `Pair.step` sends nothing, now or later; the product
queues the S1F13 and writes it at the next link-up.  The states agree throughout. -/
theorem delay_not_connected_flushed_at_linkUp :
    let hNc : St := ⟨.notConnected, false, false, 1000, [], false, 0⟩
    let r1 := gemStep cfgShipped hNc (gDelay false) .delayExpired
    let r2 := prodStep cfgShipped r1.1.1 r1.1.2 .connect none
    Coupled hNc (gDelay false) true
    ∧ absFrames r1.2.1 r1.2.2 = [] ∧ r1.1.2.queued = [3]
    ∧ ((Model.Pair.step ⟨absEnd hNc (gDelay false) true, ⟨true, true, .nc, .notc⟩, [], []⟩ (.delay .A)).map (·.ab)) = some []
    ∧ absFrames r2.2.1 r2.2.2 = [.s1f13] ∧ r2.1.2.queued = []
    ∧ absEnd r2.1.1 r2.1.2 true = ⟨true, false, .ns, .wcra⟩ := by
  decide +kernel

-- non-vacuity: a start-up run of one (passive) endpoint through the product, coupled at the start and at the end

example :
    let h0 : St := St.init false 1000
    let g0 : State := Model.GemComm.init
    Coupled h0 g0 false
    ∧ (let r1 := gemStep cfgShipped h0 g0 .enable                          -- enable
       let r2 := prodStep cfgShipped r1.1.1 r1.1.2 .connect none           -- link up
       let r3 := prodDeliver cfgShipped r2.1.1 r2.1.2 .selReq 5 0          -- Select.req → Select.rsp, S1F13
       let r4 := prodDeliver cfgShipped r3.1.1 r3.1.2 (.s1f14 true) 0 0    -- S1F14 COMMACK 0
       Coupled r4.1.1 r4.1.2 true
       ∧ absEnd r4.1.1 r4.1.2 true = ⟨true, false, .sel, .comm⟩
       ∧ absFrames r3.2.1 r3.2.2 = [.selRsp, .s1f13]) := by
  decide +kernel

end SecsModel.Props.C20b
