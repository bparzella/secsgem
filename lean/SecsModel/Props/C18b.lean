import SecsModel.Proofs.SMBridge
import SecsModel.Model.Pair
/-!
# C18b — the table steps used by the HSMS / GEM-communication / pair models are the engine

`Model.Hsms.smStep`/`smCall` (C05, over `Gen.ConnSM`), `Model.GemComm.smStep` (C07, over `Gen.CommSM`) and the projection
`Model.Pair.connOk/commOk` (C20) never mention the engine.  The theorems below tie them to `Model.SM.perform`, the model of
`StateMachine._perform_transition` that the C18 theorems are about: for every state of the machine with
`active = ancestors-or-self of current`, every transition name (also names the table does not have), every handler table whose
callbacks request no transition of the same machine (`Quiet`; the callbacks actually registered are instances), and any fuel
above a small bound, the engine succeeds iff the table step succeeds, ends in the state the table step names with exact flags,
and otherwise raises the same error class leaving everything untouched.
-/
namespace SecsModel.Props.C18b
open SecsModel SecsModel.Model.SM SecsModel.Proofs.SM SecsModel.Proofs.SMBridge SecsModel.Gen

/-- **Connection machine.**  `Model.Hsms.smStep Gen.ConnSM.transitions` from the name of the engine's current state vs the engine. -/
theorem conn_bridge (hh : Handlers) (K : Nat) (hq : QuietK hh K) (f : Nat) (hf : K + 5 ≤ f) (st : St)
    (hcur : st.cur < ConnSM.states.length) (hinv : Inv (ofTable ConnSM) st) (name : String) :
    match Model.Hsms.smStep ConnSM.transitions (stateName ConnSM st.cur) name with
    | .ok d => ∃ st', perform (ofTable ConnSM) hh f st name = .ok st' ∧ st'.cur = stateIdx ConnSM d ∧
        stateName ConnSM st'.cur = d ∧ Inv (ofTable ConnSM) st'
    | .error e => ∃ e', failOf e = some e' ∧ perform (ofTable ConnSM) hh f st name = .fail e' st :=
  bridge ConnSM 2 K conn_tableOk hh hq f (by omega) st hcur hinv name

/-- the same with the callbacks `HsmsProtocol.__init__` really registers (`connHandlers`: 3 rows, hence fuel `8 = 3 + 5`) -/
theorem conn_bridge_wired (f : Nat) (hf : 8 ≤ f) (st : St) (hcur : st.cur < ConnSM.states.length)
    (hinv : Inv (ofTable ConnSM) st) (name : String) :
    match Model.Hsms.smStep ConnSM.transitions (stateName ConnSM st.cur) name with
    | .ok d => ∃ st', perform (ofTable ConnSM) connHandlers f st name = .ok st' ∧ st'.cur = stateIdx ConnSM d ∧
        stateName ConnSM st'.cur = d ∧ Inv (ofTable ConnSM) st'
    | .error e => ∃ e', failOf e = some e' ∧ perform (ofTable ConnSM) connHandlers f st name = .fail e' st :=
  conn_bridge connHandlers 3 connHandlers_quiet f hf st hcur hinv name

/-- non-vacuity: `select` in CONNECTED_NOT_SELECTED (state 2, flags of 2 and its parent 1) succeeds on both sides -/
example : (match Model.Hsms.smStep ConnSM.transitions (stateName ConnSM 2) "select" with | .ok d => d == "CONNECTED_SELECTED" | .error _ => false) = true ∧
    (perform (ofTable ConnSM) connHandlers 8 { cur := 2, active := canonFlags (ofTable ConnSM) 2, log := [] } "select").st.cur = 3 := by
  decide +kernel

open SecsModel.Spec.E37 (Conn) in
/-- **`Model.Hsms.smCall`** (what the C05 model calls for `self._connection_state.<method>()`): for each of the three leaf states
and each public method of the generated machine, `smCall` returns the leaf state the engine ends in, or the engine's error class. -/
theorem conn_smCall_bridge (hh : Handlers) (K : Nat) (hq : QuietK hh K) (f : Nat) (hf : K + 5 ≤ f) (c : Conn) (method t : String)
    (hm : ConnSM.methods.lookup method = some t) (st : St) (hcur : st.cur = stateIdx ConnSM (Model.Hsms.connName c))
    (hinv : Inv (ofTable ConnSM) st) :
    match Model.Hsms.smCall c method with
    | .ok c' => ∃ st', perform (ofTable ConnSM) hh f st t = .ok st' ∧ st'.cur = stateIdx ConnSM (Model.Hsms.connName c') ∧
        Inv (ofTable ConnSM) st'
    | .error e => ∃ e', failOf e = some e' ∧ perform (ofTable ConnSM) hh f st t = .fail e' st := by
  have hb := bridge_named conn_names 2 K conn_tableOk hh hq f (by omega) c st hcur hinv t
  unfold Model.Hsms.smCall
  rw [hm]
  simp only
  cases hs : Model.Hsms.smStep ConnSM.transitions (Model.Hsms.connName c) t with
  | error e => rw [hs] at hb; exact hb
  | ok d =>
    rw [hs] at hb
    obtain ⟨c', st', hof, hb⟩ := hb
    simp only [hof]
    exact ⟨st', hb⟩

open SecsModel.Spec.E30Comm in
/-- **Communication machine.**  `Model.GemComm.smStep` vs the engine on `Gen.CommSM`. -/
theorem comm_bridge (hh : Handlers) (K : Nat) (hq : QuietK hh K) (f : Nat) (hf : K + 5 ≤ f) (c : Comm) (tr : Trans) (st : St)
    (hcur : st.cur = stateIdx CommSM c.name) (hinv : Inv (ofTable CommSM) st) :
    match Model.GemComm.smStep c tr with
    | .ok d => ∃ st', perform (ofTable CommSM) hh f st tr.name = .ok st' ∧ st'.cur = stateIdx CommSM d.name ∧
        Inv (ofTable CommSM) st'
    | .error .wrongSource => perform (ofTable CommSM) hh f st tr.name = .fail .wrongSource st
    | .error .unknownTransition => perform (ofTable CommSM) hh f st tr.name = .fail .unknown st
    | .error .unknownState => False := by
  have hb := bridge_named comm_names 2 K comm_tableOk hh hq f (by omega) c st hcur hinv tr.name
  rw [gemcomm_smStep_eq]
  cases hs : Model.Hsms.smStep CommSM.transitions c.name tr.name with
  | error e =>
    rw [hs] at hb
    obtain ⟨e', he, hp⟩ := hb
    rcases failOf_eq_some he with ⟨rfl, rfl⟩ | ⟨rfl, rfl⟩ <;> exact hp
  | ok d =>
    rw [hs] at hb
    obtain ⟨d', st', hof, hb⟩ := hb
    simp only [hof]
    exact ⟨st', hb⟩

open SecsModel.Spec.E30Comm in
/-- the same with the callbacks actually registered on the communication machine (`commHandlers`: 6 rows, hence fuel `11 = 6 + 5`) -/
theorem comm_bridge_wired (f : Nat) (hf : 11 ≤ f) (c : Comm) (tr : Trans) (st : St)
    (hcur : st.cur = stateIdx CommSM c.name) (hinv : Inv (ofTable CommSM) st) :
    match Model.GemComm.smStep c tr with
    | .ok d => ∃ st', perform (ofTable CommSM) commHandlers f st tr.name = .ok st' ∧ st'.cur = stateIdx CommSM d.name ∧
        Inv (ofTable CommSM) st'
    | .error .wrongSource => perform (ofTable CommSM) commHandlers f st tr.name = .fail .wrongSource st
    | .error .unknownTransition => perform (ofTable CommSM) commHandlers f st tr.name = .fail .unknown st
    | .error .unknownState => False :=
  comm_bridge commHandlers 6 commHandlers_quiet f hf c tr st hcur hinv

open SecsModel.Spec.E30Comm in
/-- non-vacuity: WAIT_CRA --s1f14received--> COMMUNICATING on both sides, with the wired callbacks firing -/
example : (match Model.GemComm.smStep .waitCra .s1f14received with | .ok d => d == .communicating | .error _ => false) = true ∧
    (let o := perform (ofTable CommSM) commHandlers 11 { cur := 7, active := canonFlags (ofTable CommSM) 7, log := [] } "s1f14received"
     o.err = none ∧ o.st.cur = 8 ∧ o.st.log = [.leave 7, .enter 8, .called "s1f14received"]) := by
  decide +kernel

def pairConnName : Model.Pair.Conn → String
  | .nc => "NOT_CONNECTED" | .ns => "CONNECTED_NOT_SELECTED" | .sel => "CONNECTED_SELECTED"

def pairCommName : Model.Pair.Comm → String
  | .dis => "DISABLED" | .notc => "NOT_COMMUNICATING" | .wcra => "WAIT_CRA" | .wdelay => "WAIT_DELAY" | .comm => "COMMUNICATING"

/-- `Model.Pair.connOk a b` holds exactly when some transition of the generated connection table leads from `a` to `b` by the table
step (hence, by `conn_bridge`, by the engine) -/
theorem pair_connOk_is_table :
    ∀ a ∈ [Model.Pair.Conn.nc, .ns, .sel], ∀ b ∈ [Model.Pair.Conn.nc, .ns, .sel],
      Model.Pair.connOk a b = (ConnSM.transitions.any fun tr =>
        match Model.Hsms.smStep ConnSM.transitions (pairConnName a) tr.1 with
        | .ok d => d == pairConnName b
        | .error _ => false) := by decide +kernel

/-- every single transition `Model.Pair.commOk` admits (session SELECTED) is a table step of the generated communication table;
the table additionally has `s1f13received` from WAIT_DELAY, which no handler path of `GemHandler` uses -/
theorem pair_commOk_in_table :
    ∀ a ∈ [Model.Pair.Comm.dis, .notc, .wcra, .wdelay, .comm], ∀ b ∈ [Model.Pair.Comm.dis, .notc, .wcra, .wdelay, .comm],
      Model.Pair.commOk .sel a b = true → (CommSM.transitions.any fun tr =>
        match Model.Hsms.smStep CommSM.transitions (pairCommName a) tr.1 with
        | .ok d => d == pairCommName b
        | .error _ => false) = true := by decide +kernel

end SecsModel.Props.C18b
