import SecsModel.Proofs.GemCommInv
import SecsModel.Gen.HsmsProto
/-!
# C07 — GEM communication state follows the E30 establish-communications model

The model is `Model.GemComm.step` (hand model of `GemHandler`, consulting the generated `Gen.CommSM` and `Gen.Callbacks`).
The clauses of the property: (1) established only after a completed exchange with COMMACK 0 on the current link, stated over
observed traces (`Spec.E30Comm.Justified`); (2) an unanswered or refused attempt is retried after the delay; (3) loss of the link
or disabling leaves the established state; (4) nothing is handed to the callbacks unless established — (2)–(4) over model states.
"For all histories" is the universally quantified `h : List Input`; both roles and every set of user callbacks are covered by
the universally quantified `cfg`.

Two behaviours are ruled out by the property text (proposals/C07-*.md): an S1F14 is accepted whatever its system bytes
(`cfg.sysChecked = false` — the shipped code, recorded finding c07-s1f14-system-unchecked), and an inbound S1F13 establishes
communication even when `on_commack_requested()` refused it (`cfg.commackGate = false`; reachable only through a subclass; the
shipped code has the gate: `commackGate = true`).  The full theorem is stated for every
variant in which the gate is present or `on_commack_requested()` accepts (`hck`); for the shipped variant it specialises to the `_partial` statement, and the two `witness_*` theorems exhibit the
histories on which the full statement fails for the defective variants.  The harness detects on every run which variant the
implementation shows; a variant whose finding is not listed in known_findings.txt is reported as a violation.
-/
namespace SecsModel.Props.C07
open SecsModel SecsModel.Spec.E30Comm SecsModel.Model.GemComm SecsModel.Proofs.GemComm

def rowOk (r : String × List String × String) : Bool :=
  Trans.all.any fun t => t.name == r.1 &&
    r.2.1.all fun src => match Comm.ofName src, Comm.ofName r.2.2 with
      | some c, some d => allowed t c == some d
      | _, _ => false

/-- every row of the generated `CommunicationStateMachine` table — each (source, destination) pair of each named
transition — is a transition of the E30 table `Spec.E30Comm.allowed`; transition names are unique -/
theorem table_refines :
    Gen.CommSM.transitions.all rowOk = true ∧ (Gen.CommSM.transitions.map (·.1)).Nodup ∧ Gen.CommSM.initial = Comm.disabled.name := by
  refine ⟨by decide +kernel, by decide +kernel, by decide +kernel⟩

/-- … and conversely the lookup the engine performs (`transition(name)`, source check) *is* the E30 table -/
theorem table_step (c : Comm) (t : Trans) :
    smStep c t = match allowed t c with | some d => .ok d | none => .error .wrongSource := smStep_eq c t

/-- **All histories, both roles, every variant.**  Whenever the handler is COMMUNICATING, the observed trace splits as
`tr₁ ++ e :: tr₂` where the link was selected after `tr₁`, `e` completes an S1F13/S1F14 exchange with COMMACK 0 (an inbound
S1F13 answered with S1F14/COMMACK 0, or an S1F14/COMMACK 0 — carrying, when the variant checks them, the system bytes of an
S1F13 written on the current link), and neither a link loss nor a disable occurs in `tr₂`. -/
theorem established_only_after_exchange_all (cfg : Cfg) (hck : cfg.commackGate = true ∨ cfg.commackReq = 0) (h : List Input)
    (hc : (run cfg h).1.comm = .communicating) : Justified cfg.sysChecked (run cfg h).2 := by
  -- every step keeps the control invariant, the link invariant and the statement itself, in that order of dependence
  refine (run_induction cfg (P := fun s tr => CInv s ∧ LInv cfg s (linkState tr) ∧
    (s.comm = .communicating → Justified cfg.sysChecked tr)) ⟨cinv_init, ⟨rfl, rfl, nofun⟩, nofun⟩ ?_ h).2.2 hc
  intro s tr i ⟨hc, hl, hj⟩
  have hs := Step.of_step cfg s i
  exact ⟨cinv_step hs hc, linkState_snoc tr _ ▸ linv_step hs _ hc hl, just_step hck hs hc hl hj⟩

/-- the statement at the strength of the property text (system bytes matched): holds for the variant that checks them -/
theorem established_only_after_exchange (cfg : Cfg) (hs : cfg.sysChecked = true)
    (hck : cfg.commackGate = true ∨ cfg.commackReq = 0) (h : List Input)
    (hc : (run cfg h).1.comm = .communicating) : Justified true (run cfg h).2 :=
  hs ▸ established_only_after_exchange_all cfg hck h hc

/-- what holds for the code as shipped (no system-bytes check; COMMACK gate or `on_commack_requested()` = 0): the S1F14 that
establishes communication carries COMMACK 0 and arrives on a selected link, but its system bytes are not constrained -/
theorem established_only_after_exchange_partial (cfg : Cfg) (hs : cfg.sysChecked = false)
    (hck : cfg.commackGate = true ∨ cfg.commackReq = 0)
    (h : List Input) (hc : (run cfg h).1.comm = .communicating) : Justified false (run cfg h).2 :=
  hs ▸ established_only_after_exchange_all cfg hck h hc

def okHistory : List Input := [.enable, .linkSelected, .rx 1 14 false 0 (some 0), .rx 1 1 true 5 none]
/-- non-vacuity: a history that ends COMMUNICATING, for the checking variant and for the shipped one -/
example : (run { sysChecked := true, commackGate := true } okHistory).1.comm = .communicating := by decide +kernel
example : (run { commackGate := true } okHistory).1.comm = .communicating := by decide +kernel
example : (run { role := .host } [.enable, .linkSelected, .t3Expired, .delayExpired, .rx 1 13 true 77 none]).1.comm = .communicating := by
  decide +kernel

/-- **Counterexample (no system-bytes check, as shipped; `on_commack_requested()` = 0, so the COMMACK gate plays no part).**
enable, link selected (S1F13 number 0 is the only one written), then an S1F14 with COMMACK 0 and system bytes 999: COMMUNICATING,
although no S1F13 with those system bytes was ever sent. -/
theorem witness_s1f14_system_unchecked :
    let h : List Input := [.enable, .linkSelected, .rx 1 14 false 999 (some 0)]
    (run {} h).1.comm = .communicating ∧ onLink ((run {} h).2.take 2) = [0] ∧
    (run { sysChecked := true } h).1.comm = .waitCra := by
  decide +kernel

/-- **Counterexample (variant without the COMMACK gate; subclass with `on_commack_requested() = 1`).**  The inbound S1F13 is
answered with S1F14/COMMACK 1 and the handler is COMMUNICATING all the same; with the gate it stays in WAIT_CRA. -/
theorem witness_commack_denied :
    let h : List Input := [.enable, .linkSelected, .rx 1 13 true 77 none]
    (run { commackReq := 1 } h).1.comm = .communicating ∧
    ((run { commackReq := 1 } h).2.map (·.outputs)).flatten = [.txS1F13 0, .txS1F14 77 1, .evtCommunicating] ∧
    (run { commackReq := 1, commackGate := true } h).1.comm = .waitCra := by
  decide +kernel

/-- the `handler_communicating` event (the report) is fired only by a step that enters COMMUNICATING -/
theorem event_only_on_entering (cfg : Cfg) (s : State) (i : Input) (h : Output.evtCommunicating ∈ (step cfg s i).2) :
    (step cfg s i).1.comm = .communicating ∧ s.comm ≠ .communicating := by
  rcases Step.outputs (Step.of_step cfg s i) h with ⟨s0, t, ho, hs0, he⟩ | ⟨k, hk⟩ | ⟨-, sf, f, w, sys, ck, -, hk | hk | ⟨hk, -⟩⟩
  · rcases perform_outputs s0 t _ ho with h1 | ⟨k, h1⟩ | h1 | ⟨-, ha⟩
    · cases h1
    · cases h1
    · cases h1
    · rw [he, perform_comm, ha, ← hs0]
      exact ⟨rfl, fun hc => allowed_ne_self t _ (hc ▸ ha)⟩
  all_goals cases hk

/-- non-vacuity: the S1F14 that establishes communication is such a step -/
example : Output.evtCommunicating ∈ (step {} (run {} [.enable, .linkSelected]).1 (.rx 1 14 false 0 (some 0))).2 := by decide +kernel

/-- in every reachable state the reply timer is pending exactly in WAIT_CRA and the delay timer exactly in WAIT_DELAY,
COMMUNICATING implies a selected link, and a selected link a connection -/
theorem timers_pending (cfg : Cfg) (h : List Input) :
    let s := (run cfg h).1
    (s.t3Armed = true ↔ s.comm = .waitCra) ∧ (s.delayArmed = true ↔ s.comm = .waitDelay) ∧
    (s.comm = .communicating → s.selected = true) ∧ (s.selected = true → s.connected = true) :=
  ⟨(cinv_run cfg h).t3, (cinv_run cfg h).dly, (cinv_run cfg h).up, (cinv_run cfg h).sc⟩

/-- unanswered: the reply timeout in WAIT_CRA starts the establish-communications delay -/
theorem retry_on_timeout (cfg : Cfg) (h : List Input) (hc : (run cfg h).1.comm = .waitCra) :
    let r := step cfg (run cfg h).1 .t3Expired
    r.1.comm = .waitDelay ∧ r.1.delayArmed = true ∧ r.1.t3Armed = false := by
  have ha := (cinv_run cfg h).t3.mpr hc
  simpa [step_t3Expired, ha] using perform_reqfail (s := { (run cfg h).1 with t3Armed := false }) hc

/-- refused: an S1F14 with COMMACK ≠ 0 (answering the outstanding S1F13, where the variant looks) in WAIT_CRA starts the delay -/
theorem retry_on_refusal (cfg : Cfg) (h : List Input) (hc : (run cfg h).1.comm = .waitCra) (hl : (run cfg h).1.selected = true)
    (w : Bool) (sys c : Nat) (hne : c ≠ 0) (hsys : cfg.sysChecked = true → (run cfg h).1.mySys = some sys) :
    let r := step cfg (run cfg h).1 (.rx 1 14 w sys (some c))
    r.1.comm = .waitDelay ∧ r.1.delayArmed = true ∧ r.1.t3Armed = false := by
  have hstep : step cfg (run cfg h).1 (.rx 1 14 w sys (some c)) = perform (run cfg h).1 .communicationreqfail := by
    cases c with
    | zero => exact absurd rfl hne
    | succ c => by_cases hs : cfg.sysChecked = true <;> simp [step_rx, hl, onMessage_eq, hc, hs, hsys]
  rw [hstep]
  exact perform_reqfail hc

/-- after the delay: back to WAIT_CRA, reply timer pending, a fresh S1F13 handed to the protocol — written at once if a
connection exists (selected or not), appended to the send queue (which is written when the next connection comes up) if
there is none -/
theorem retry_after_delay (cfg : Cfg) (h : List Input) (hc : (run cfg h).1.comm = .waitDelay) :
    let s := (run cfg h).1
    let r := step cfg s .delayExpired
    r.1.comm = .waitCra ∧ r.1.t3Armed = true ∧ r.1.delayArmed = false ∧ r.1.mySys = some s.nextSys ∧
    (s.connected = true → r.2 = [.txS1F13 s.nextSys]) ∧ (s.connected = false → r.1.queued = s.queued ++ [s.nextSys]) := by
  have ha := (cinv_run cfg h).dly.mpr hc
  have hp := perform_waitCra (s := { (run cfg h).1 with delayArmed := false }) (t := .delayexpired) (hc ▸ rfl)
  simp only [step_delayExpired, ha, if_true, hp, sendS1F13_eq, leaveEffects_eq]
  cases (run cfg h).1.connected <;> simp

/-- "after the *configured* establish-communications delay": durations are not part of the model; what is generated from the
source is that the configured values reach the timers unaltered — the settings take them with a plain `kwargs.get(name, default)`
(0 is a value, the default is 10 s), the property's setter stores what it is given (0.8 s stays 0.8 s) and the getter returns it,
and the timer handlers read the setting when the state is entered -/
theorem configured_durations_taken :
    Gen.Callbacks.establishDelayPlainGet = true ∧ Gen.Callbacks.establishDelayDefault = 10 ∧
    Gen.Callbacks.timeoutsPlainGet = true ∧ Gen.Callbacks.timersReadSettings = true ∧
    Gen.Callbacks.establishDelayGetterPlain = true ∧ Gen.Callbacks.establishDelaySetterPlain = true ∧
    Gen.Callbacks.timeoutsAccessPlain = true := by decide

/-- the input `enable` of the model is `_communication_state.enable()` *followed by* `protocol.enable()`: a transport that brings
the link up from inside `protocol.enable()` delivers `linkSelected` to an enabled machine (the harness letter `en+sel`); `disable`
is the protocol first, then the machine.  Generated from the statement order of `GemHandler.enable` / `disable`. -/
theorem enable_order : Gen.Callbacks.enableStateMachineFirst = true ∧ Gen.Callbacks.disableProtocolFirst = true := by decide

/-- … so that such an `enable()` starts the attempt: from DISABLED, `enable` then `linkSelected` ends in WAIT_CRA with the S1F13
written and the reply timer pending (any variant, any role) -/
theorem attempt_starts_on_enable (cfg : Cfg) (s : State) (hd : s.comm = .disabled) (hs : s.selected = false) :
    let r1 := step cfg s .enable
    let r2 := step cfg r1.1 .linkSelected
    r2.1.comm = .waitCra ∧ r2.1.t3Armed = true ∧ Output.txS1F13 s.nextSys ∈ r2.2 := by
  have h1 : step cfg s .enable = ({ s with comm := .notCommunicating }, []) := by
    rw [step_enable, perform_of_allowed (d := .notCommunicating) (hd ▸ rfl)]
    simp [enterEffects_eq, leaveEffects_eq, hd]
  have hp := perform_waitCra (t := .select)
    (s := { s with comm := .notCommunicating, connected := true, selected := true, queued := [] }) rfl
  simp [h1, step_linkSelected, hs, hp, sendS1F13_eq, leaveEffects_eq]

/-- non-vacuity: WAIT_CRA and WAIT_DELAY are reachable with the link up -/
example : (run {} [.enable, .linkSelected]).1.comm = .waitCra ∧ (run {} [.enable, .linkSelected]).1.selected = true := by decide +kernel
/-- … and a connected but not selected endpoint in WAIT_DELAY writes its S1F13 at once; with no connection it is the first
frame of the next one -/
example :
    (step {} (run {} [.enable, .linkSelected, .t3Expired, .linkLost, .linkConnected]).1 .delayExpired).2 = [.txS1F13 1] ∧
    (run {} [.enable, .linkSelected, .t3Expired, .linkLost, .delayExpired, .linkConnected]).2.getLast?.map (·.outputs) = some [.txS1F13 1] := by
  decide +kernel
example : (run {} [.enable, .linkSelected, .rx 1 14 false 0 (some 1)]).1.comm = .waitDelay := by decide +kernel

/-- after any history, the loss of the link (the protocol's `disconnected` event reaching `on_connection_closed`) and
`disable()` each leave the handler in a state other than COMMUNICATING -/
theorem leave_on_loss (cfg : Cfg) (h : List Input) :
    (run cfg (h ++ [.linkLost])).1.comm ≠ .communicating ∧ (run cfg (h ++ [.disable])).1.comm ≠ .communicating := by
  rw [run_snoc, run_snoc]
  exact ⟨Step.leaves (Step.of_step ..) (cinv_run cfg h) (.inl rfl), Step.leaves (Step.of_step ..) (cinv_run cfg h) (.inr rfl)⟩

/-- `leave_on_loss` speaks about the input `linkLost`, which is the protocol's `disconnected` event.  That
`HsmsProtocol._on_disconnected` fires it whenever the connection reports the loss — no statement in front of the state change,
the event last — is generated from its statement list (`Gen.HsmsProto`), and `GemHandler` is hooked to it (`Gen.Callbacks`) -/
theorem link_loss_reaches_handler :
    Gen.HsmsProto.onDisconnected = ["set_connected 0", "sm.disconnect", "thread.stop", "receive_buffer.clear", "fire disconnected"] ∧
    hooked "disconnected" "_on_disconnected" = true ∧ Gen.Callbacks.disconnectedForwards = true := by
  refine ⟨by decide, hooked_disc, forwards⟩

/-- non-vacuity: the history before the loss does end COMMUNICATING -/
example : (run {} okHistory).1.comm = .communicating ∧ (run {} (okHistory ++ [.linkLost])).1.comm = .notCommunicating := by
  decide +kernel

/-- what `waitfor_communicating` tells the application is the established state, so it is covered by clause 1:
reported ⇒ a completed exchange on the current link with no loss or disable since -/
theorem reported_only_after_exchange (cfg : Cfg) (hck : cfg.commackGate = true ∨ cfg.commackReq = 0) (h : List Input)
    (hr : reportsEstablished (run cfg h).1 = true) : Justified cfg.sysChecked (run cfg h).2 :=
  established_only_after_exchange_all cfg hck h (by simpa [reportsEstablished] using hr)

/-- … and after a link loss or a disable nothing is reported -/
theorem not_reported_after_loss (cfg : Cfg) (h : List Input) :
    reportsEstablished (run cfg (h ++ [.linkLost])).1 = false ∧ reportsEstablished (run cfg (h ++ [.disable])).1 = false := by
  have := leave_on_loss cfg h
  simpa [reportsEstablished] using this

/-- from any state and on any input, a registered or built-in stream/function callback is invoked only if the handler was
COMMUNICATING before the step (`_handle_stream_function` is reached from that branch of `_on_message_received` alone) -/
theorem no_callback_unless_established (cfg : Cfg) (s : State) (i : Input) (sf f : Nat)
    (h : Output.callback sf f ∈ (step cfg s i).2) : s.comm = .communicating := (step_callback cfg s i sf f h).1

/-- non-vacuity: in COMMUNICATING the callback of an S1F1 is invoked; the same message in WAIT_DELAY is dropped -/
example : (step {} (run {} okHistory).1 (.rx 1 1 true 9 none)).2 = [.callback 1 1] := by decide +kernel
example : (step {} (run {} [.enable, .linkSelected, .t3Expired]).1 (.rx 1 1 true 9 none)).2 = [] := by decide +kernel

end SecsModel.Props.C07
