import SecsModel.Model.GemRcmd
import SecsModel.Model.GemHost
import SecsModel.Props.C12
import SecsModel.Props.C13
/-!
# C20 (part c) — remote commands, and the host side of event reports and alarms

`Model.Gem.Rcmd` / `Model.Gem.Host` are hand models of `remote_control_capability.py` and `hosthandler.py`; the pair composes the
host with the equipment model of C12 (`Model.Gem.Ev`) over a FIFO link; the alarm statements are about the tables of C13
(`Model.Gem.Tab`) on their own.  `host_events` goes: what the three
requests of a subscription do to the equipment's report table → `Sync` is kept by every operation → what the host does with a
well-formed S6F11 under `Sync` (`onS6f11_delivered`) → C12's `trigger_ok`.
-/
namespace SecsModel.Props.C20c
open SecsModel SecsModel.Model.Gem SecsModel.Spec.EventReports SecsModel.Proofs.Gem SecsModel.Proofs.Gem.Ev
open SecsModel.Model.Gem.Rcmd SecsModel.Model.Gem.Host

/-- the HCACK of a request with a text RCMD: 1 unknown command or no callback, 3 bad parameter, 4 accepted -/
def hcackOf (cfg : Rcmd.Cfg) (n : String) (ps : List (Id × Val)) : Nat :=
  match cfg.find n with
  | none => 1
  | some c => if !hasCallback cfg n then 1 else if badParam c ps then 3 else 4

def isReply : Eff → Bool
  | .reply _ => true
  | _ => false

def isCall : Eff → Bool
  | .call _ _ => true
  | _ => false

/-- **S2F41, text RCMD.**  Exactly one S2F42 is sent and it is the first effect, with the HCACK of the table; the callback
is invoked iff HCACK = 4, then exactly once, with exactly the given parameters as keyword arguments, after the S2F42;
a callback that returns is followed by the trigger of the command's finished event and nothing else, a callback that raises
by an S2F0 (after the S2F42) and no trigger; with HCACK ≠ 4 nothing else happens. -/
theorem s2f41_behaviour (cfg : Rcmd.Cfg) (n : String) (ps : List (Id × Val)) :
    (s2f41 cfg (.text n) ps).filter isReply = [.reply (hcackOf cfg n ps)]
    ∧ (s2f41 cfg (.text n) ps).head? = some (.reply (hcackOf cfg n ps))
    ∧ (hcackOf cfg n ps ≠ 4 → s2f41 cfg (.text n) ps = [.reply (hcackOf cfg n ps)])
    ∧ (hcackOf cfg n ps = 4 → ∃ c, cfg.find n = some c ∧
        s2f41 cfg (.text n) ps = [.reply 4, .call n (kwargsOf ps)] ++
          (if raises cfg n then [.abort] else [.trigger c.ceFinished])) := by
  cases hf : cfg.find n with
  | none => simp [s2f41, hcackOf, hf, isReply]
  | some c =>
    cases h1 : hasCallback cfg n <;> cases h2 : badParam c ps <;> cases h3 : raises cfg n <;>
      simp [s2f41, hcackOf, hf, h1, h2, h3, isReply, List.filter_cons]

/-- the callback is called at most once, and once exactly when HCACK = 4 -/
theorem callback_once (cfg : Rcmd.Cfg) (n : String) (ps : List (Id × Val)) :
    ((s2f41 cfg (.text n) ps).filter isCall).length = (if hcackOf cfg n ps = 4 then 1 else 0) := by
  by_cases h : hcackOf cfg n ps = 4
  · obtain ⟨c, _, he⟩ := (s2f41_behaviour cfg n ps).2.2.2 h
    rw [he, if_pos h]
    cases hr : raises cfg n <;> simp [isCall, List.filter_cons]
  · rw [(s2f41_behaviour cfg n ps).2.2.1 h, if_neg h]
    simp [isCall]

/-- a numeric RCMD item: the handler raises before anything else, S2F0 is the only effect -/
theorem s2f41_not_text (cfg : Rcmd.Cfg) (ps : List (Id × Val)) : s2f41 cfg .notText ps = [.abort] := rfl

/-- **`send_remote_command`** returns the S2F42 with the table's HCACK, for list and for OrderedDict parameters alike -/
theorem send_remote_command_result (cfg : Rcmd.Cfg) (n : String) (ps : HostParams) :
    (sendRemoteCommand cfg n ps).2 = some (.reply (hcackOf cfg n (hostParams ps))) := by
  unfold sendRemoteCommand
  have h := (s2f41_behaviour cfg n (hostParams ps)).2.1
  simp only
  cases he : s2f41 cfg (.text n) (hostParams ps) with
  | nil => rw [he] at h; cases h
  | cons e t => rw [he] at h; simp only [List.head?_cons, Option.some.injEq] at h; subst h; rfl

example : s2f41 ⟨[⟨"GO", [.text "P1"], .nums [5001]⟩], ["GO"], []⟩ (.text "GO") [(.text "P1", .nums [1]), (.text "P1", .nums [2])]
    = [.reply 4, .call "GO" [(.text "P1", .nums [2])], .trigger (.nums [5001])] := by decide +kernel
example : s2f41 ⟨[⟨"GO", [.text "P1"], .nums [5001]⟩], ["GO"], ["GO"]⟩ (.text "GO") []
    = [.reply 4, .call "GO" [], .abort] := by decide +kernel
example : s2f41 ⟨[⟨"GO", [.text "P1"], .nums [5001]⟩], ["GO"], []⟩ (.text "GO") [(.text "P2", .nums [1])] = [.reply 3] := by decide +kernel
example : s2f41 ⟨[⟨"GO", [.text "P1"], .nums [5001]⟩], [], []⟩ (.text "GO") [] = [.reply 1] := by decide +kernel

/-- every report the equipment has defined is the host's subscription under that id (not conversely: `disable_ceid_reports` deletes the
equipment's reports and leaves `report_subscriptions` alone), and report ids are used values of the host's counter -/
def Sync (cfg : Ev.Cfg) (p : Pair) : Prop :=
  Inv cfg p.eq
  ∧ (∀ e ∈ p.eq.conf.reports, p.host.subs.lookup e.1 = some e.2)
  ∧ (∀ e ∈ p.eq.conf.reports, ∃ n, e.1 = .nums [n] ∧ n < p.host.counter)

theorem reports_s2f37 (s : Ev.St) (b : Bool) (cs : List Id) : (Ev.s2f37 s b cs).1.conf.reports = s.conf.reports :=
  (s2f37_lists s b cs).1

theorem reports_s2f35 (cfg : Ev.Cfg) (s : Ev.St) (e : LinkReq) : (Ev.s2f35 cfg s [e]).1.conf.reports = s.conf.reports := by
  by_cases ha : (Ev.s2f35 cfg s [e]).2 = .code 0
  · rw [C12.s2f35_accepted_effect cfg s _ ha]
    exact reports_s2f35Effect _ _
  · rw [C12.s2f35_refused_unchanged cfg s _ ha]

theorem reports_s2f33_single (cfg : Ev.Cfg) (s : Ev.St) (r : Id) (dvs : List Id) :
    (Ev.s2f33 cfg s [⟨r, dvs⟩]).1.conf.reports = s.conf.reports
    ∨ (Ev.s2f33 cfg s [⟨r, dvs⟩]).1.conf.reports = s.conf.reports.set r dvs
    ∨ (Ev.s2f33 cfg s [⟨r, dvs⟩]).1.conf.reports = s.conf.reports.filter (fun e => !(e.1 = r)) := by
  by_cases ha : (Ev.s2f33 cfg s [⟨r, dvs⟩]).2 = .code 0
  · rw [C12.s2f33_accepted_effect cfg s _ ha]
    simp only [s2f33Effect, reduceCtorEq, if_false, List.foldl_cons, List.foldl_nil, s2f33Entry]
    split
    · exact Or.inr (Or.inr rfl)
    · exact Or.inr (Or.inl rfl)
  · rw [C12.s2f33_refused_unchanged cfg s _ ha]; exact Or.inl rfl

theorem mem_reports_s2f33_single (cfg : Ev.Cfg) (s : Ev.St) (r : Id) (dvs : List Id) {e : Id × List Id}
    (he : e ∈ (Ev.s2f33 cfg s [⟨r, dvs⟩]).1.conf.reports) : e ∈ s.conf.reports ∨ e = (r, dvs) := by
  rcases reports_s2f33_single cfg s r dvs with h | h | h <;> rw [h] at he
  · exact .inl he
  · exact AList.mem_set he
  · exact .inl (List.mem_filter.mp he).1

theorem reports_s2f33_nil (cfg : Ev.Cfg) (s : Ev.St) : (Ev.s2f33 cfg s []).1.conf.reports = [] := by
  simp [Ev.s2f33, Ev.pre33]

/-- only automatically numbered subscriptions (`report_id=None`) -/
def AutoOnly (ops : List Host.Op) : Prop := ∀ op ∈ ops, ∀ c d r, op = Host.Op.subscribe c d r → r = none

theorem step_sync (cfg : Ev.Cfg) (p : Pair) (op : Host.Op) (ha : ∀ c d r, op = Host.Op.subscribe c d r → r = none)
    (h : Sync cfg p) : Sync cfg (Host.step cfg p op).1 := by
  obtain ⟨hinv, hsub, hfresh⟩ := h
  cases op with
  | subscribe ceid dvs rid =>
    obtain rfl : rid = none := ha ceid dvs rid rfl
    -- an old report id is a counter value already used, so the new subscription does not touch it
    have hold : ∀ e ∈ p.eq.conf.reports,
        (p.host.subs.set (.nums [p.host.counter]) dvs).lookup e.1 = some e.2 ∧ ∃ n, e.1 = .nums [n] ∧ n < p.host.counter + 1 := by
      intro e he
      obtain ⟨n, hn, hlt⟩ := hfresh e he
      refine ⟨?_, n, hn, by omega⟩
      rw [AList.lookup_set_ne (by rw [hn]; intro hc; injection hc with hc; injection hc with hc; omega)]
      exact hsub e he
    simp only [Host.step, Host.subscribe]
    have hnew : ∀ e ∈ (Ev.s2f37 (Ev.s2f35 cfg (Ev.s2f33 cfg p.eq [⟨.nums [p.host.counter], dvs⟩]).1 [⟨ceid, [.nums [p.host.counter]]⟩]).1
        true [ceid]).1.conf.reports, e ∈ p.eq.conf.reports ∨ e = (.nums [p.host.counter], dvs) := fun e he => by
      rw [reports_s2f37, reports_s2f35] at he
      exact mem_reports_s2f33_single cfg p.eq _ dvs he
    refine ⟨C12.step_inv cfg _ (.s2f37 true [ceid]) (C12.step_inv cfg _ (.s2f35 [⟨ceid, [.nums [p.host.counter]]⟩])
      (C12.step_inv cfg _ (.s2f33 [⟨.nums [p.host.counter], dvs⟩]) hinv)), fun e he => ?_, fun e he => ?_⟩
    · rcases hnew e he with h1 | rfl
      · exact (hold e h1).1
      · exact AList.lookup_set_self
    · rcases hnew e he with h1 | rfl
      · exact (hold e h1).2
      · exact ⟨p.host.counter, rfl, Int.lt_succ _⟩
  | clear =>
    simp only [Host.step]
    refine ⟨C12.step_inv cfg _ (.s2f33 []) (C12.step_inv cfg _ (.s2f37 false []) hinv), ?_, ?_⟩ <;>
      (intro e he; rw [reports_s2f33_nil] at he; cases he)
  | disableReports =>
    simp only [Host.step]
    refine ⟨C12.step_inv cfg _ (.s2f33 []) hinv, ?_, ?_⟩ <;> (intro e he; rw [reports_s2f33_nil] at he; cases he)
  | disableCeids =>
    simp only [Host.step]
    have hsame : (Ev.s2f37 p.eq false []).1.conf.reports = p.eq.conf.reports := reports_s2f37 ..
    rw [Sync, hsame]
    exact ⟨C12.step_inv cfg _ (.s2f37 false []) hinv, hsub, hfresh⟩
  | trigger cs => exact ⟨hinv, hsub, hfresh⟩
  | setSv v x => exact ⟨C12.step_inv cfg p.eq (.setSv v x) hinv, hsub, hfresh⟩
  | setDv v x => exact ⟨C12.step_inv cfg p.eq (.setDv v x) hinv, hsub, hfresh⟩

theorem run_sync (cfg : Ev.Cfg) : ∀ (ops : List Host.Op) (p : Pair), AutoOnly ops → Sync cfg p → Sync cfg (Host.run cfg p ops)
  | [], _, _, h => h
  | op :: ops, p, ha, h =>
    run_sync cfg ops _ (fun o ho => ha o (List.mem_cons_of_mem _ ho)) (step_sync cfg p op (ha op List.mem_cons_self) h)

theorem init_sync (cfg : Ev.Cfg) : Sync cfg Pair.init :=
  ⟨C12.init_inv cfg, by intro e he; simp [Pair.init, Ev.St.init] at he, by intro e he; simp [Pair.init, Ev.St.init] at he⟩

theorem pairValues_zip : ∀ (dvs : List Id) (vals : List Val), dvs.length = vals.length → pairValues dvs vals = .ok (dvs.zip vals)
  | [], _, _ => rfl
  | d :: ds, [], h => by simp at h
  | d :: ds, v :: vs, h => by
    simp only [pairValues, pairValues_zip ds vs (by simpa using h), List.zip_cons_cons]

/-- what the host does with one well-formed report list: one `collection_event_received` per report, the subscribed dv ids
paired in order with the current values, then S6F12 -/
def Delivered (cfg : Ev.Cfg) (p : Pair) (c : Id) (rpts : List (Id × List Val)) (effs : List HostEff) : Prop :=
  ∃ evs, effs = evs ++ [.reply12] ∧
    Forall2 (fun rp ev => ∃ dvs, p.host.subs.lookup rp.1 = some dvs ∧ p.eq.conf.reports.lookup rp.1 = some dvs ∧
        ev = HostEff.received c rp.1 (dvs.zip rp.2) ∧ Forall2 (fun d x => Ev.value? cfg p.eq d = some x) dvs rp.2) rpts evs

theorem onS6f11_delivered (cfg : Ev.Cfg) (p : Pair) (hs : Sync cfg p) (c : Id) : ∀ (rs : List Id) (rpts : List (Id × List Val)),
    (∀ r ∈ rs, r.scalar = true) → C12.WellFormed cfg p.eq rs rpts → Delivered cfg p c rpts (onS6f11 p.host c rpts)
  | _, _, _, .nil => ⟨[], rfl, .nil⟩
  | r :: rs, rp :: rpts, hsc, .cons hr ht => by
    obtain ⟨h1, vars, hl, hv⟩ := hr
    obtain ⟨evs, he, hf⟩ := onS6f11_delivered cfg p hs c rs rpts (fun x hx => hsc x (List.mem_cons_of_mem _ hx)) ht
    obtain ⟨r', vals⟩ := rp
    simp only at h1 hv
    subst h1
    have hsub : p.host.subs.lookup r' = some vars := hs.2.1 (r', vars) (AList.lookup_some_mem hl)
    have hlen : vars.length = vals.length := Forall2.length_eq hv
    refine ⟨.received c r' (vars.zip vals) :: evs, ?_, .cons ⟨vars, hsub, hl, rfl, hv⟩ hf⟩
    simp only [onS6f11, hsc r' List.mem_cons_self, if_true, hsub, pairValues_zip vars vals hlen, he, List.cons_append]

theorem wellformed_ids (cfg : Ev.Cfg) (s : Ev.St) : ∀ (rs : List Id) (rpts : List (Id × List Val)),
    C12.WellFormed cfg s rs rpts → rpts.map (·.1) = rs
  | _, _, .nil => rfl
  | _ :: rs, _ :: rpts, .cons hr ht => by simp [hr.1, wellformed_ids cfg s rs rpts ht]

/-- **Every S6F11 of a trigger reaches the host application exactly once per linked report.**  For every history of
automatically numbered subscriptions, clears, `disable_ceid_reports` / `disable_ceids` calls, triggers and value updates on the pair,
and every list of CEIDs given to one trigger call: the equipment sends one S6F11 per linked-and-enabled CEID in list order (and its
sender does not die); the host turns each into exactly one `collection_event_received` per linked report, in link order, whose values
are the subscribed dv ids paired in order with the variables' current values, and answers S6F12 — never `KeyError`/`IndexError`/S6F0,
because the subscription exists and its length matches (invariant `Sync`, proved from the subscribe sequence). -/
theorem host_events (cfg : Ev.Cfg) (ops : List Host.Op) (ha : AutoOnly ops) (cs : List Id) :
    ∃ sent, Ev.trigger cfg (Host.run cfg Pair.init ops).eq cs = (sent, false) ∧
      Forall2 (fun c m => m.1 = c ∧ ∃ rs, (Host.run cfg Pair.init ops).eq.conf.links.lookup c = some (rs, true) ∧
          m.2.map (·.1) = rs ∧ Delivered cfg (Host.run cfg Pair.init ops) c m.2 (onS6f11 (Host.run cfg Pair.init ops).host c m.2))
        (cs.filter (Ev.reportable (Host.run cfg Pair.init ops).eq)) sent := by
  have hs := run_sync cfg ops Pair.init ha (init_sync cfg)
  generalize Host.run cfg Pair.init ops = p at hs ⊢
  obtain ⟨sent, ht, hf⟩ := C12.trigger_ok cfg p.eq hs.1 cs
  refine ⟨sent, ht, Forall2.imp ?_ hf⟩
  rintro c m ⟨hc, rs, hl, hw⟩
  have hscalar : ∀ r ∈ rs, r.scalar = true := by
    intro r hr
    have hk := hs.1.1 _ (AList.lookup_some_mem hl) r hr
    obtain ⟨vars, hv⟩ := AList.exists_of_mem_keys hk
    obtain ⟨n, hn, _⟩ := hs.2.2 (r, vars) (AList.lookup_some_mem hv)
    simp only at hn; subst hn; rfl
  have hmap : m.2.map (·.1) = rs := wellformed_ids cfg p.eq rs m.2 hw
  exact ⟨hc, rs, hl, hmap, hc ▸ onS6f11_delivered cfg p hs m.1 rs m.2 hscalar hw⟩

def cfgP : Ev.Cfg := { ceids := [.nums [100], .nums [101]], svs := [(.nums [10], .cell)], dvs := [.nums [30]] }

-- non-vacuity: two subscriptions, a value update, one trigger call over both events
example : (Host.step cfgP (Host.run cfgP Pair.init
      [.subscribe (.nums [100]) [.nums [30], .nums [10]] none, .subscribe (.nums [101]) [.nums [10]] none, .setDv (.nums [30]) (.nums [99])])
      (.trigger [.nums [101], .nums [7], .nums [100]])).2
    = .delivered [[.received (.nums [101]) (.nums [1001]) [(.nums [10], .nums [0])], .reply12],
                  [.received (.nums [100]) (.nums [1000]) [(.nums [30], .nums [99]), (.nums [10], .nums [0])], .reply12]] false := by
  decide +kernel

/-- **Witness (why `AutoOnly`).**  Re-using a report id explicitly: the host overwrites its subscription before the equipment
refuses the re-definition (DRACK 3); the next S6F11 of the first event carries two values for three subscribed ids and the host
answers S6F0 (`IndexError`). -/
theorem witness_explicit_report_id :
    (Host.step cfgP (Host.run cfgP Pair.init
      [.subscribe (.nums [100]) [.nums [30], .nums [10]] (some (.nums [5])), .subscribe (.nums [101]) [.nums [30], .nums [10], .nums [10]] (some (.nums [5]))])
      (.trigger [.nums [100]])).2 = .delivered [[.abort]] false := by decide +kernel

/-- **`set_alarm` / `clear_alarm` + `_on_s05f01`.**  For a known alarm the host's `alarm_received` fires exactly for the S5F1
reports the equipment sends — once with code `ALCD | 0x80` when an enabled alarm becomes set, once with the plain code when
it is cleared, never otherwise — each answered by S5F2 (0); whether the S5F2 arrives does not matter to the equipment. -/
theorem alarms_reach_host (s : Tab.St) (i : Id) (a : Tab.Alarm) (h : s.findAlarm i = some a) (replied : Bool) :
    (∃ rows, (Tab.setAlarm s i replied).2 = .ok rows ∧
      rows.flatMap onS5f01 = (if !a.set && a.enabled then [.alarm (a.code ||| 128) i a.text, .reply52 0] else []))
    ∧ (∃ rows, (Tab.clearAlarm s i replied).2 = .ok rows ∧
      rows.flatMap onS5f01 = (if a.set && a.enabled then [.alarm a.code i a.text, .reply52 0] else [])) := by
  have hi := C13.alarm_reply_independent s i replied true
  constructor
  · refine ⟨_, by rw [hi.1]; exact (C13.set_alarm_reports s i a h).1, ?_⟩
    unfold Spec.GemTables.setReports
    cases a.set <;> cases a.enabled <;> simp [onS5f01]
  · refine ⟨_, by rw [hi.2]; exact (C13.clear_alarm_reports s i a h).1, ?_⟩
    unfold Spec.GemTables.clearReports
    cases a.set <;> cases a.enabled <;> simp [onS5f01]

end SecsModel.Props.C20c
