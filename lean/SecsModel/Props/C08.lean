import SecsModel.Proofs.SecsHandle
/-!
# C08 — every primary expecting a reply is answered exactly once, with the same system bytes

The model is `Model.SecsHandle.handle` (protocol gate → `GemHandler._on_message_received` → `_handle_stream_function` →
`_handle_unknown_functions`); which classes inherit which `_on_sXXfYY`, the catalogue, and the literals of the S9F5 / SxF0
replies are generated (`Gen.Callbacks`).  "All stream/function numbers, catalogued or not, all bodies" is the universally
quantified `m : Msg` together with the universally quantified callback outcome; "all sequences" is `handleAll` over a list.

Two behaviours of the shipped code are ruled out by the property text and recorded as findings (proposals/C08-*.md): the
secondary returned by a callback is sent even when the primary carries no W-bit (`env.wGate = false`), and the abort cannot
be built for a stream whose function 0 is not in the catalogue (`env.abortAny = false`; reachable only with a user callback on
such a stream).  A callback that returns `None` for a W-bit primary yields no reply: outside the statement ("the secondary
returned by the callback"), kept visible as `callback_none`.
-/
namespace SecsModel.Props.C08
open SecsModel SecsModel.Spec.E30Comm SecsModel.Model.SecsHandle SecsModel.Proofs.SecsHandle

/-- "while communication is established": selected link, COMMUNICATING; and — only for an even function, which is a reply and
not a primary — nobody is waiting for these system bytes (an even-function message whose system bytes match an open
transaction is the reply to *our* primary).  An odd-function primary needs no such hypothesis: it is dispatched whatever
system bytes it carries. -/
structure Established (env : Env) (m : Msg) : Prop where
  sel : env.selected = true
  comm : env.comm = .communicating
  fresh : m.f % 2 = 0 → env.waiting.contains m.sys = false

theorem handle_established {env : Env} {m : Msg} (he : Established env m) : handle env m = handleStreamFunction env m := by
  have hf : toWaiter env m = false := by
    rw [toWaiter_eq]
    by_cases h : m.f % 2 = 0
    · rw [he.fresh h, Bool.and_false]
    · simp [h]
  simp [handle, he.sel, hf, he.comm, dispatches_eq]

/-- the one reply the property names -/
def expected (env : Env) (m : Msg) : Frame :=
  if hasCallback env m.s m.f then
    match env.outcome m with
    | .reply s f => .data s f false m.sys .fn                    -- the secondary returned by the callback
    | _ => .data m.s 0 false m.sys .empty                        -- the stream's function 0
  else .data 9 5 false m.sys (.header m.hdr)                     -- S9F5 carrying the offending header

/-- what the callback does is one of the two outcomes the statement speaks of; for a failing callback the abort can be built -/
def Covered (env : Env) (m : Msg) : Prop :=
  hasCallback env m.s m.f = true →
    (∃ s f, env.outcome m = .reply s f) ∨ (env.outcome m = .raises ∧ (env.abortAny = true ∨ catalogued env m.s 0 = true))

/-- **Exactly one reply, same system bytes, and which one** — for every stream/function number, catalogued or not. -/
theorem exactly_one (env : Env) (m : Msg) (he : Established env m) (hw : m.w = true)
    (h95 : catalogued env 9 5 = true) (hc : Covered env m) :
    handle env m = [expected env m] ∧ (expected env m).sys = m.sys ∧ (expected env m).isData = true := by
  refine ⟨?_, ?_, ?_⟩
  · rw [handle_established he]
    unfold handleStreamFunction expected
    by_cases hcb : hasCallback env m.s m.f = true
    · simp only [hcb, Bool.not_true, Bool.false_eq_true, if_false, if_true]
      rcases hc hcb with ⟨s, f, ho⟩ | ⟨ho, ha⟩
      · simp [ho, hw]
      · simp only [ho, abort, abortFunction_eq]
        rcases ha with ha | ha <;> simp [ha]
    · simp only [hcb, Bool.not_false, if_true, Bool.false_eq_true, if_false, handleUnknown, hw, unknownReply_eq, h95]
  · unfold expected; split
    · split <;> rfl
    · rfl
  · unfold expected; split
    · split <;> rfl
    · rfl

/-- an equipment handler with nothing registered -/
def eq : Env := { builtin := Gen.Callbacks.builtinGemEquipmentHandler }

/-- generated facts about the callback table: `_call` runs the registered callback before the handler's own `_on_sXXfYY`,
`__contains__` accepts either, and `_handle_stream_function` has no condition in front of the callback other than the
`not in self._callback_handler` test (in particular none on the catalogue) -/
theorem callback_table :
    Gen.Callbacks.registeredFirst = true ∧ Gen.Callbacks.containsEither = true ∧ Gen.Callbacks.unknownIffNoCallback = true := by
  decide

/-- the hand-over of a reply to the protocol thread cannot lose its wake-up: `send_message` queues the block, then triggers
(generated from the statement order; that a frame in `handle`'s result is actually written rests on this) -/
theorem reply_handed_over : Gen.Callbacks.sendPutBeforeTrigger = true := by decide

/-- a registered callback is the one that runs, also where the handler class has a built-in for the same S/F; without one
the built-in runs; `hasCallback` holds exactly when one of them runs -/
theorem registered_callback_wins (env : Env) (s f : Nat) :
    (env.user.contains (s, f) = true → selects env s f = .user) ∧
    (env.user.contains (s, f) = false → env.builtin.contains (s, f) = true → selects env s f = .builtin) ∧
    (hasCallback env s f = true ↔ selects env s f ≠ .none) := by
  rw [selects_eq, hasCallback]
  cases env.user.contains (s, f) <;> cases env.builtin.contains (s, f) <;> simp

/-- non-vacuity: S1F1 on the equipment class with and without a registered callback -/
example : selects { eq with user := [(1, 1)] } 1 1 = .user ∧ selects eq 1 1 = .builtin ∧ selects eq 64 1 = .none := by decide +kernel

/-- the shipped catalogue has S9F5, and every stream with a built-in callback (either handler class) has a function 0 -/
theorem catalogue_has_replies :
    Gen.Callbacks.catalogue.contains (9, 5) = true ∧
    (Gen.Callbacks.builtinGemEquipmentHandler ++ Gen.Callbacks.builtinGemHostHandler).all
      (fun sf => Gen.Callbacks.catalogue.contains (sf.1, Gen.Callbacks.abortFunction)) = true ∧
    Gen.Callbacks.streamsWithF0.all (fun s => Gen.Callbacks.catalogue.contains (s, 0)) = true ∧
    Gen.Callbacks.unknownReply = (9, 5) ∧ Gen.Callbacks.abortFunction = 0 := by
  decide +kernel

/-- with the shipped catalogue and a built-in callback (no user callback for that S/F) the abort can always be built: the
only hypothesis left is that the callback returns its secondary or raises -/
theorem exactly_one_builtin (env : Env) (m : Msg) (he : Established env m) (hw : m.w = true)
    (hcat : env.catalogue = Gen.Callbacks.catalogue)
    (hb : env.builtin = Gen.Callbacks.builtinGemEquipmentHandler ∨ env.builtin = Gen.Callbacks.builtinGemHostHandler)
    (hm : (m.s, m.f) ∈ env.builtin)
    (ho : (∃ s f, env.outcome m = .reply s f) ∨ env.outcome m = .raises) :
    handle env m = [expected env m] := by
  have h95 : catalogued env 9 5 = true := by unfold catalogued; rw [hcat]; exact catalogue_has_replies.1
  have h0 : catalogued env m.s 0 = true := by
    unfold catalogued; rw [hcat]
    have hall := catalogue_has_replies.2.1
    rw [List.all_eq_true] at hall
    have := hall (m.s, m.f) (by
      rcases hb with hb | hb <;> rw [hb] at hm
      · exact List.mem_append_left _ hm
      · exact List.mem_append_right _ hm)
    simpa [abortFunction_eq] using this
  refine (exactly_one env m he hw h95 ?_).1
  intro _
  rcases ho with ho | ho
  · exact Or.inl ho
  · exact Or.inr ⟨ho, Or.inr h0⟩

/-- non-vacuity: S1F3 W with a callback that replies / raises, S99F1 W without callback -/
example : handle { eq with outcome := fun _ => .reply 1 4 } ⟨1, 3, true, 7, []⟩ = [.data 1 4 false 7 .fn] := by decide +kernel
example : handle { eq with outcome := fun _ => .raises } ⟨1, 3, true, 7, []⟩ = [.data 1 0 false 7 .empty] := by decide +kernel
example : handle eq ⟨99, 1, true, 7, [0, 0, 227, 1, 0, 0, 0, 0, 0, 7]⟩ = [.data 9 5 false 7 (.header [0, 0, 227, 1, 0, 0, 0, 0, 0, 7])] := by
  decide +kernel
example : Established eq ⟨1, 3, true, 7, []⟩ := ⟨rfl, rfl, by decide⟩
/-- a primary that carries the system bytes of an open transaction of ours is answered like any other -/
example : handle { eq with waiting := [7], outcome := fun _ => .reply 1 4 } ⟨1, 3, true, 7, []⟩ = [.data 1 4 false 7 .fn] ∧
    handle { eq with waiting := [7] } ⟨1, 4, false, 7, []⟩ = [] := by decide +kernel

/-- non-vacuity of `exactly_one_builtin`: the hypotheses hold for S1F3 on the equipment class -/
example : eq.catalogue = Gen.Callbacks.catalogue ∧ eq.builtin = Gen.Callbacks.builtinGemEquipmentHandler ∧ ((1, 3) : Nat × Nat) ∈ eq.builtin := by
  decide +kernel

/-- **All sequences.**  In the frames caused by any sequence of messages with pairwise distinct system bytes, the frames
carrying the system bytes of a W-bit primary that met an established handler are exactly its one expected reply. -/
theorem exactly_one_in_sequence (ems : List (Env × Msg)) (hd : (ems.map (·.2.sys)).Nodup)
    (env : Env) (m : Msg) (hm : (env, m) ∈ ems) (he : Established env m) (hw : m.w = true)
    (h95 : catalogued env 9 5 = true) (hc : Covered env m) :
    (handleAll ems).filter (fun fr => fr.sys == m.sys) = [expected env m] := by
  rw [handleAll_filter_sys ems hd env m hm, (exactly_one env m he hw h95 hc).1]

/-- non-vacuity: a sequence of three messages with distinct system bytes; the middle one is answered once -/
example :
    let ems : List (Env × Msg) := [({ eq with outcome := fun _ => .reply 1 2 }, ⟨1, 1, true, 7, []⟩),
      ({ eq with outcome := fun _ => .raises }, ⟨1, 3, true, 8, []⟩), (eq, ⟨99, 1, false, 9, []⟩)]
    (ems.map (·.2.sys)).Nodup ∧ (handleAll ems).filter (fun fr => fr.sys == 8) = [.data 1 0 false 8 .empty] := by
  decide +kernel

/-- **No W-bit, handled without error ⇒ no reply** — for the variant that looks at the W-bit before sending the secondary -/
theorem no_reply_without_W (env : Env) (m : Msg) (hg : env.wGate = true) (hw : m.w = false)
    (hok : hasCallback env m.s m.f = true → (∃ s f, env.outcome m = .reply s f) ∨ env.outcome m = .none) :
    (handle env m).filter Frame.isData = [] :=
  handle_no_data env m (fun _ => hw) fun hcb => (hok hcb).elim (fun h => .inr ⟨h, hg, hw⟩) .inl

/-- non-vacuity: with the gate an S1F1 without W-bit whose callback returns S1F2 is handled without error and nothing is written -/
example : (handle { eq with outcome := fun _ => .reply 1 2, wGate := true } ⟨1, 1, false, 7, []⟩).filter Frame.isData = [] := by
  decide +kernel

/-- what holds for the shipped code: no reply without W when there is no callback, or the callback returns `None` -/
theorem no_reply_without_W_partial (env : Env) (m : Msg) (hw : m.w = false)
    (hok : hasCallback env m.s m.f = true → env.outcome m = .none) :
    (handle env m).filter Frame.isData = [] :=
  handle_no_data env m (fun _ => hw) fun hcb => .inl (hok hcb)

/-- **Counterexample (shipped variant).**  S1F1 without W-bit, the built-in callback returns S1F2: the S1F2 is written. -/
theorem witness_reply_without_w :
    handle { eq with outcome := fun _ => .reply 1 2 } ⟨1, 1, false, 7, []⟩ = [.data 1 2 false 7 .fn] ∧
    handle { eq with outcome := fun _ => .reply 1 2, wGate := true } ⟨1, 1, false, 7, []⟩ = [] := by
  decide +kernel

/-- **Counterexample (shipped variant).**  A user callback on S99F1 (stream 99 has no function 0 in the catalogue) raises:
nothing at all is written for a W-bit primary; the variant that can always build SxF0 sends S99F0. -/
theorem witness_abort_uncatalogued :
    handle { eq with user := [(99, 1)], outcome := fun _ => .raises } ⟨99, 1, true, 7, []⟩ = [] ∧
    handle { eq with user := [(99, 1)], outcome := fun _ => .raises, abortAny := true } ⟨99, 1, true, 7, []⟩ = [.data 99 0 false 7 .empty] := by
  decide +kernel

/-- a callback returning `None` for a W-bit primary yields no reply (outside the statement; named here) -/
theorem callback_none (env : Env) (m : Msg) (hcb : hasCallback env m.s m.f = true) (ho : env.outcome m = .none) :
    (handle env m).filter Frame.isData = [] :=
  handle_no_data env m (fun h => by rw [hcb] at h; cases h) fun _ => .inl ho

/-- a callback that sends its reply itself and then raises (`_on_s02f41` with a failing `rcmd_*` callback) yields the reply
*and* the abort (excluded by `Covered`; named here) -/
theorem callback_reply_then_raise (env : Env) (m : Msg) (he : Established env m) (hcb : hasCallback env m.s m.f = true)
    (s f : Nat) (ho : env.outcome m = .replyThenRaises s f) (h0 : catalogued env m.s 0 = true) (hw : m.w = true) :
    handle env m = [.data s f false m.sys .fn, .data m.s 0 false m.sys .empty] := by
  simp [handle_established he, handleStreamFunction, hcb, ho, abort, abortFunction_eq, h0, hw]

/-- while not COMMUNICATING nothing reaches `_handle_stream_function` -/
theorem nothing_unless_established (env : Env) (m : Msg) (hs : env.selected = true) (hc : env.comm ≠ .communicating) :
    handle env m = [] := by
  simp [handle, hs, dispatches_eq, hc]

end SecsModel.Props.C08
