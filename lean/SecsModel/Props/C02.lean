import SecsModel.Proofs.CodecRound
/-!
# C02 — Every valid SEMI E5 item encoding is decoded to the value it denotes (variables API)

The quantifier of the property is "every byte string accepted by an independent reference decoder": `Spec.E5.decodeAny`
(1, 2 or 3 length bytes regardless of the magnitude, every E5 format code, arbitrary nesting).
-/
namespace SecsModel.Props.C02
open SecsModel SecsModel.Spec.E5 SecsModel.Model.Var
open SecsModel.Proofs.CodecSpec SecsModel.Proofs.CodecVar SecsModel.Proofs.CodecVarDec SecsModel.Proofs.CodecRound SecsModel.Proofs.CodecCanon

/-- **The reference is sound**: it accepts every canonical encoding, with the (normalised) value, consuming exactly the item. -/
theorem spec_sound (v : Val) (bs rest : Bytes) (he : Spec.E5.encode v = .ok bs) : decodeAny (bs ++ rest) = some (norm v, rest) :=
  Proofs.CodecSpec.spec_sound v bs rest he

/-- **The reference is sane**: whatever it accepts (finite floats) has a canonical encoding, which it reads back to the same value —
re-encoding erases the sender's choice of length bytes. -/
theorem spec_canonical (bs : Bytes) (v : Val) (h : Valid bs v) (hab : AllBytes bs) (hfin : v.Finite) :
    ∃ cs, Spec.E5.encode v = .ok cs ∧ Valid cs v :=
  (decoded_valid bs v [] h hab hfin).2

/-- **Decode completeness.**  For every byte string the reference decoder accepts (finite floats), decoding it at any offset into a
fresh object of any structure the value conforms to — a typed leaf with its count limit, a `Dynamic` whose type list contains the
item's type, `ANYVALUE`, `Array`, `List`, nested arbitrarily; nested lists under a `Dynamic` go to `Array(ANYVALUE)` — yields
exactly that value and the position after the item. -/
theorem decode_complete (bs : Bytes) (v : Val) (rest : Bytes) (h : decodeAny bs = some (v, rest)) (hab : AllBytes bs) (hfin : v.Finite)
    (s : Struct) (hs : Conforms s v) (pre : Bytes) :
    decodeAs s (pre ++ bs) pre.length = .ok (v, pre.length + (bs.length - rest.length)) :=
  decodeAs_complete bs v rest h hab hfin s hs pre

/-- the `ANYVALUE` instance: every valid item without a JIS-8 sub-item -/
theorem decode_complete_any (bs : Bytes) (v : Val) (rest : Bytes) (h : decodeAny bs = some (v, rest)) (hab : AllBytes bs) (hfin : v.Finite)
    (hj : NoJ v) (pre : Bytes) :
    decodeDyn (pre ++ bs) pre.length = .ok (v, pre.length + (bs.length - rest.length)) :=
  decodeAs_complete bs v rest h hab hfin anyStruct (noJ_any v hj) pre

/-- **Re-encoding is canonical.**  The decoded object's `encode()` is the canonical E5 encoding of the value, which the
reference reads back to the same value. -/
theorem reencode_canonical (bs : Bytes) (v : Val) (rest : Bytes) (h : decodeAny bs = some (v, rest)) (hab : AllBytes bs) (hfin : v.Finite) :
    ∃ cs, Model.Var.encode v = .ok cs ∧ Spec.E5.encode v = .ok cs ∧ Valid cs v := by
  obtain ⟨ha, cs, hc, hv⟩ := decoded_valid bs v rest h hab hfin
  exact ⟨cs, by rw [Proofs.CodecVar.encode_exact v ha, hc], hc, hv⟩

/-- **No data item allows JIS-8 in a `Dynamic`** (generated from `data_items/*.py`): the missing JIS8 entry of the
`Dynamic.decode` table is outside "every format code the receiving item definition allows". -/
theorem no_item_allows_jis8 : Gen.VarTypes.dataItemsAllowingJIS8 = [] ∧ Tag.leaf .j ∉ anyTags := by decide +kernel

/-! The hypotheses are met (`wire`), and three deviations of the implementation that lie outside the quantifier of the property. -/

/-- a non-canonical encoding: list with a 3-byte count, U2 with a 2-byte length, nested list with a 2-byte count, F4 FLT_MAX -/
def wire : Bytes := [0x03, 0, 0, 3, 0xAA, 0x00, 0x04, 0x12, 0x34, 0xFF, 0xFF, 0x02, 0x00, 0x01, 0x41, 0x01, 0x7A, 0x91, 0x04, 0x7F, 0x7F, 0xFF, 0xFF]
def wireVal : Val := .list [.item .u2 [0x1234, 0xFFFF], .list [.item .a [0x7A]], .item .f4 [0x47EFFFFFE0000000]]

example : decodeAny wire = some (wireVal, []) := by decide +kernel
example : AllBytes wire := by decide
example : decodeDyn wire 0 = .ok (wireVal, 23) := by decide +kernel
example : Model.Var.encode wireVal = .ok [0x01, 3, 0xA9, 0x04, 0x12, 0x34, 0xFF, 0xFF, 0x01, 0x01, 0x41, 0x01, 0x7A, 0x91, 0x04, 0x7F, 0x7F, 0xFF, 0xFF] := by
  decide +kernel

/-- zero length bytes: not a valid E5 item (the reference refuses it); the implementation reads it as an empty item -/
theorem witness_zero_length_bytes : decodeAny [0xA4] = none ∧ decodeAs (.leaf .u1 (-1)) [0xA4] 0 = .ok (.item .u1 [], 1) := by decide +kernel

/-- a JIS-8 item is valid E5 and a `JIS8` object decodes it, but `Dynamic.decode` has no entry for it -/
theorem witness_dynamic_no_jis8 :
    decodeAny [0x45, 0x01, 0x5C] = some (.item .j [0xA5], []) ∧ decodeAs (.leaf .j (-1)) [0x45, 0x01, 0x5C] 0 = .ok (.item .j [0xA5], 3)
    ∧ decodeDyn [0x45, 0x01, 0x5C] 0 = .error .valueError := by decide +kernel

/-- an infinity is a valid E5 float but outside the property ("every finite IEEE-754 float"): `set()` refuses it -/
theorem witness_infinity_refused :
    decodeAny [0x91, 0x04, 0x7F, 0x80, 0, 0] = some (.item .f4 [0x7FF0000000000000], []) ∧ decodeDyn [0x91, 0x04, 0x7F, 0x80, 0, 0] 0 = .error .valueError := by
  decide +kernel

end SecsModel.Props.C02
