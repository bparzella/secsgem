import SecsModel.Proofs.GemTab
/-!
# C13 — Status variables, constants and alarms answer as a reference model predicts

`Model.Gem.Tab` is the hand model of the four capability files; `Spec.GemTables` the reference.  All statements are about an
arbitrary state `s` (hence about the state after any history) unless they are invariants, which are proved over histories;
`s2f13_spec` needs `TypeOk s`, which the code as it is does not keep (`witness_float_on_int_constant`).
-/
namespace SecsModel.Props.C13
open SecsModel SecsModel.Model.Gem SecsModel.Model.Gem.Tab SecsModel.Spec.GemTables SecsModel.Proofs.Gem.Tab

theorem s1f3Loop_eq (s : St) : ∀ ids : List Id, (∀ i ∈ ids, i.hashable = true) →
    s1f3Loop s ids = .ok (ids.map (fun i => match s.findSv i with | some sv => svCurrent s sv | none => Val.empty)) :=
  okLoop_eq rfl fun i rest vs hi hr => by
    simp only [s1f3Loop, hi, hr, if_true]
    cases s.findSv i <;> rfl

/-- **S1F3** for ids whose hash exists (every non-empty item): exactly the requested status variables, in request order,
current value, an empty list item for an unknown id; all of them in table order for an empty request. -/
theorem s1f3_spec (s : St) (ids : List Id) (h : ∀ i ∈ ids, i.hashable = true) : Tab.s1f3 s ids = .ok (Spec.GemTables.s1f3 s ids) :=
  reply_eq rfl (s1f3Loop_eq s) ids h

theorem s1f11Loop_eq (s : St) : ∀ ids : List Id, (∀ i ∈ ids, i.hashable = true) →
    s1f11Loop s ids = .ok (ids.map (fun i => match s.findSv i with | some sv => (sv.id, sv.name, sv.unit) | none => (i, "", ""))) :=
  okLoop_eq rfl fun i rest vs hi hr => by
    simp only [s1f11Loop, hi, hr, if_true]
    cases s.findSv i <;> rfl

/-- **S1F11**: names and units of the requested ids in request order, the id with empty name and unit for an unknown one. -/
theorem s1f11_spec (s : St) (ids : List Id) (h : ∀ i ∈ ids, i.hashable = true) : Tab.s1f11 s ids = .ok (Spec.GemTables.s1f11 s ids) :=
  reply_eq rfl (s1f11Loop_eq s) ids h

theorem s2f29Loop_eq (s : St) : ∀ ids : List Id, (∀ i ∈ ids, i.hashable = true) →
    s2f29Loop s ids = .ok (ids.map (fun i => match s.findEc i with | some ec => ecRow ec | none => ⟨i, "", .text "", .text "", .text "", ""⟩)) :=
  okLoop_eq rfl fun i rest vs hi hr => by
    simp only [s2f29Loop, hi, hr, if_true]
    cases s.findEc i <;> rfl

/-- **S2F29**: the namelist rows of the requested constants in request order, empty fields for an unknown id. -/
theorem s2f29_spec (s : St) (ids : List Id) (h : ∀ i ∈ ids, i.hashable = true) : Tab.s2f29 s ids = .ok (Spec.GemTables.s2f29 s ids) :=
  reply_eq rfl (s2f29Loop_eq s) ids h

/-- every stored constant can be shown by its item class: an integer-typed constant holds an `int` -/
def TypeOk (s : St) : Prop := ∀ ec ∈ s.ecs, ec.intTyped = true → ec.value.isFloat = false

theorem ecValue_ok (s : St) (ec : Ec) (h : ec.intTyped = true → ec.value.isFloat = false) :
    ecValue s ec = .ok (ecCurrent s ec) := by
  unfold ecValue ecCurrent
  cases ecKind ec.id with
  | ect => rfl
  | timeFormat => rfl
  | plain =>
    simp only
    by_cases ht : ec.intTyped = true
    · have := h ht
      simp only [ht, if_true]
      cases hv : ec.value <;> simp_all [Num.isFloat, numVal]
    · have ht' : ec.intTyped = false := by simpa using ht
      simp only [ht', Bool.false_eq_true, if_false]
      cases ec.value <;> rfl

theorem s2f13Loop_eq (s : St) (ht : TypeOk s) : ∀ ids : List Id, (∀ i ∈ ids, i.hashable = true) →
    s2f13Loop s ids = .ok (ids.map (fun i => match s.findEc i with | some ec => ecCurrent s ec | none => Val.empty)) :=
  okLoop_eq rfl fun i rest vs hi hr => by
    simp only [s2f13Loop, hi, hr, if_true]
    cases hf : s.findEc i with
    | none => rfl
    | some ec => simp only [ecValue_ok s ec (ht ec (List.mem_of_find?_eq_some hf))]

theorem s2f13All_eq (s : St) : ∀ l : List Ec, (∀ ec ∈ l, ec.intTyped = true → ec.value.isFloat = false) →
    s2f13All s l = .ok (l.map (ecCurrent s)) :=
  okLoop_eq rfl fun ec rest vs hec hr => by simp only [s2f13All, ecValue_ok s ec hec, hr]

/-- **S2F13** in a state where every constant is showable (`TypeOk`, an invariant of the patched code, see
`typeok_invariant`; for the code as it is see `witness_float_on_int_constant`): exactly the requested constants in request
order with their current values, an empty list item for an unknown id. -/
theorem s2f13_spec (s : St) (ids : List Id) (ht : TypeOk s) (h : ∀ i ∈ ids, i.hashable = true) :
    Tab.s2f13 s ids = .ok (Spec.GemTables.s2f13 s ids) :=
  reply_eq (s2f13All_eq s s.ecs ht) (s2f13Loop_eq s ht) ids h

/-- the two GEM-defined constants (ECID 1, 2 — the ones `_set_ec_value` converts with `int()`) declare both limits, as the shipped
ones do; without it a NaN for such a constant would pass the pre-check and raise in the middle of the apply loop -/
def BuiltinBounded (s : St) : Prop :=
  ∀ i ec, s.findEc i = some ec → ecKind i ≠ .plain → ec.min.isSome = true ∧ ec.max.isSome = true

theorem bb_setOne {s : St} (hb : BuiltinBounded s) (i : Id) (x : Num) : BuiltinBounded (setOne s i x) := by
  intro j ec' hf hk
  obtain ⟨ec, h0, hmin, hmax⟩ := limits_setOne hf
  rw [hmin, hmax]
  exact hb j ec h0 hk

theorem bb_of_ecs {s s' : St} (h : s'.ecs = s.ecs) (hb : BuiltinBounded s) : BuiltinBounded s' := by
  intro i ec hf hk
  unfold St.findEc at hf
  rw [h] at hf
  exact hb i ec hf hk

/-- **The accepted outcome of S2F15, pair by pair.**  From a `BuiltinBounded` state and a request that fitted, the apply loop
cannot raise (for ECID 1 and 2 the two declared limits make the value finite, so `int()` succeeds) and stores every pair; and
whatever survives storing one pair that fitted survives the request.  `Fits` and `BuiltinBounded` speak of the state before the
request; they go along because storing changes no declaration. -/
theorem apply15_induction {P : St → Prop} (hset : ∀ s i x, Fits s (i, .num x) → P s → P (setOne s i x)) :
    ∀ (req : List (Id × Ecv)) (s : St), BuiltinBounded s → (∀ p ∈ req, Fits s p) → P s →
      apply15 s req = .ok (applyAll s req) ∧ BuiltinBounded (applyAll s req) ∧ P (applyAll s req)
  | [], _, hb, _, h => ⟨rfl, hb, h⟩
  | (i, v) :: rest, s, hb, hf, h => by
    obtain ⟨ec, x, hfe, hv, h1, h2, h3⟩ := hf (i, v) List.mem_cons_self
    simp only at hfe hv
    subst hv
    have hs := setEc_eq_setOne s i x fun hk => finite_of_limits (hb i ec hfe hk).1 (hb i ec hfe hk).2 h1 h2
    simp only [apply15, hfe, hs, applyAll, List.foldl_cons, numOf]
    exact apply15_induction hset rest _ (bb_setOne hb i x) (fun p hp => fits_setOne i x (hf p (List.mem_cons_of_mem _ hp)))
      (hset s i x ⟨ec, x, hfe, rfl, h1, h2, h3⟩ h)

theorem apply15_ok {s : St} {req : List (Id × Ecv)} (hb : BuiltinBounded s) (hf : ∀ p ∈ req, Fits s p) :
    apply15 s req = .ok (applyAll s req) :=
  (apply15_induction (P := fun _ => True) (fun _ _ _ _ _ => trivial) req s hb hf trivial).1

theorem typeCheck_applyAll (req : List (Id × Ecv)) (s : St) : (applyAll s req).typeCheck = s.typeCheck :=
  List.foldlRecOn (motive := fun s' => s'.typeCheck = s.typeCheck) req _ rfl
    fun s' h p _ => (typeCheck_setOne s' p.1 (numOf p.2)).trans h

theorem bb_applyAll (req : List (Id × Ecv)) (s : St) (hb : BuiltinBounded s) : BuiltinBounded (applyAll s req) :=
  List.foldlRecOn (motive := BuiltinBounded) req _ hb fun _ h p _ => bb_setOne h p.1 (numOf p.2)

/-- S2F15 is a checked handler whose accepted outcome is "every value stored": the apply loop never fails half-way -/
theorem s2f15_checked {s : St} (hb : BuiltinBounded s) (req : List (Id × Ecv)) :
    Proofs.Gem.Checked (pre15 s 0 req) s (applyAll s req, .code 0) (s2f15 s req) := by
  have h : Proofs.Gem.Checked (pre15 s 0 req) s (match apply15 s req with | .ok s' => (s', .code 0) | .error (_, s') => (s', .abort))
      (s2f15 s req) := Proofs.Gem.guarded_checked ..
  rcases h with ⟨hp, he⟩ | h | h
  · refine .inl ⟨hp, he.trans ?_⟩
    rw [apply15_ok hb (pre15_zero hp).2]
  · exact .inr (.inl h)
  · exact .inr (.inr h)

/-- **S2F15 applies all its constants or none.**  With EAC 0 every pair is acceptable (constant exists, value a number within
`[min, max]` — which excludes NaN as soon as one limit is declared) and the new state is exactly all values stored in message order; with any other
answer (EAC 1/3, or the abort for an empty ECID or a non-numeric ECV, which is raised in the pre-check) the state is unchanged.
In particular the apply loop never fails half-way. -/
theorem s2f15_all_or_none (s : St) (req : List (Id × Ecv)) (hb : BuiltinBounded s) :
    ((s2f15 s req).2 = .code 0 → (s2f15 s req).1 = applyAll s req ∧ ∀ p ∈ req, acceptable s p)
    ∧ ((s2f15 s req).2 ≠ .code 0 → (s2f15 s req).1 = s) := by
  refine ⟨fun h => ?_, (s2f15_checked hb req).unchanged rfl⟩
  obtain ⟨hp, he⟩ := (s2f15_checked hb req).accepted h
  exact ⟨congrArg Prod.fst he, fun p hpm => ((pre15_zero hp).2 p hpm).acceptable⟩

/-- **EAC codes.**  0, 1 or 3; 1 only if some constant does not exist, 3 only if some value is outside its limits (or, in the
patched variant, a float for an integer constant). -/
theorem eac_codes (s : St) (req : List (Id × Ecv)) (n : Nat) (hb : BuiltinBounded s) (h : (s2f15 s req).2 = .code n) :
    n = 0 ∨ (n = 1 ∧ ∃ p ∈ req, s.findEc p.1 = none)
    ∨ (n = 3 ∧ ∃ p ∈ req, ∃ ec x, s.findEc p.1 = some ec ∧ p.2 = .num x ∧
        (x.geO ec.min = false ∨ x.leO ec.max = false ∨ (s.typeCheck && ec.intTyped && x.isFloat) = true)) := by
  rcases pre15_verdict s req 0 n ((s2f15_checked hb req).pre_of_code rfl h) with ⟨h0, _⟩ | ⟨_, p, hpm, ⟨h1, hq⟩ | ⟨h3, hq⟩⟩
  · exact .inl h0
  · exact .inr (.inl ⟨h1, p, hpm, hq⟩)
  · exact .inr (.inr ⟨h3, p, hpm, hq⟩)

/-- what the invariants of the constants read of a state -/
def consts (s : St) : List Ec × Bool × Int × Int := (s.ecs, s.typeCheck, s.ect, s.timeFormat)

theorem consts_eq {s s' : St} (h : consts s' = consts s) :
    s'.ecs = s.ecs ∧ s'.typeCheck = s.typeCheck ∧ s'.ect = s.ect ∧ s'.timeFormat = s.timeFormat := by
  simpa only [consts, Prod.mk.injEq] using h

theorem step_ecs (s : St) (op : Op) (hb : BuiltinBounded s) :
    consts (step s op).1 = consts s ∨ ∃ req, (step s op).1 = applyAll s req ∧ ∀ p ∈ req, Fits s p := by
  cases op with
  | s2f15 req =>
    exact (s2f15_checked hb req).keeps (P := fun s' => consts s' = consts s ∨ ∃ req, s' = applyAll s req ∧ ∀ p ∈ req, Fits s p)
      (.inl rfl) fun hp => .inr ⟨req, rfl, (pre15_zero hp).2⟩
  | s5f3 aled alid =>
    refine .inl ?_
    show consts (s5f3 s aled alid).1 = _
    unfold s5f3
    cases alid.scalar <;> cases s.findAlarm alid <;> rfl
  | setAlarm i rp =>
    refine .inl ?_
    show consts (setAlarm s i rp).1 = _
    unfold setAlarm
    cases s.findAlarm i with
    | none => rfl
    | some a => obtain ⟨_, _, _, _, set⟩ := a; cases set <;> rfl
  | clearAlarm i rp =>
    refine .inl ?_
    show consts (clearAlarm s i rp).1 = _
    unfold clearAlarm
    cases s.findAlarm i with
    | none => rfl
    | some a => obtain ⟨_, _, _, _, set⟩ := a; cases set <;> rfl
  | _ => exact .inl rfl

/-- How a history can change what the constants' invariants read: a property of the state that looks only at `consts`
and that survives storing one pair that fitted holds after every history. -/
theorem run_induction {P : St → Prop} (hframe : ∀ s s', consts s' = consts s → P s → P s')
    (hset : ∀ s i x, Fits s (i, .num x) → P s → P (setOne s i x)) :
    ∀ (ops : List Op) (s : St), BuiltinBounded s → P s → P (run s ops)
  | [], _, _, h => h
  | op :: ops, s, hb, h => by
    rcases step_ecs s op hb with he | ⟨req, he, hf⟩
    · exact run_induction hframe hset ops _ (bb_of_ecs (consts_eq he).1 hb) (hframe s _ he h)
    · obtain ⟨_, hb', h'⟩ := apply15_induction hset req s hb hf h
      exact run_induction hframe hset ops _ (he ▸ hb') (he ▸ h')

/-- no constant leaves its declared limits, in either variant -/
theorem run_inRange (ops : List Op) (s : St) (hb : BuiltinBounded s) (h : InRange s) : InRange (run s ops) := by
  refine run_induction (P := InRange) (fun _ _ hc h => ?_) (fun s i x hfits h => ?_) ops s hb h
  · unfold InRange
    rw [(consts_eq hc).1]
    exact h
  · obtain ⟨ec, y, hfind, hnum, hmin, hmax, _⟩ := hfits
    cases hnum
    exact forall_ecs_setOne hfind ⟨hmin, hmax⟩ h

/-- **No constant ever leaves its declared limits** (a missing `min`/`max` is no limit on that side): from a state whose constants are
within their limits, after every history of requests, alarm changes and value updates every constant is within its limits.
(Stated for the code as it is, `typeCheck = false`; the proof does not read the variant: `run_inRange`.) -/
theorem ec_in_range (s : St) (ops : List Op) (hb : BuiltinBounded s) (h : InRange s) (htc : s.typeCheck = false) : InRange (run s ops) :=
  run_inRange ops s hb h

/-- the patched variant (`typeCheck = true`) also keeps `TypeOk` -/
theorem typeok_invariant (s : St) (ops : List Op) (hb : BuiltinBounded s) (h : InRange s) (ht : TypeOk s) (htc : s.typeCheck = true) :
    InRange (run s ops) ∧ TypeOk (run s ops) := by
  have hpatched : (run s ops).typeCheck = true ∧ TypeOk (run s ops) := by
    refine run_induction (P := fun s => s.typeCheck = true ∧ TypeOk s) (fun _ _ hc h => ?_) (fun s i x hfits h => ?_) ops s hb ⟨htc, ht⟩
    · obtain ⟨hecs, htc', _⟩ := consts_eq hc
      unfold TypeOk
      rw [hecs, htc']
      exact h
    · obtain ⟨ec, y, hfind, hnum, _, _, hint⟩ := hfits
      obtain ⟨htc', ht'⟩ := h
      cases hnum
      exact ⟨(typeCheck_setOne s i x).trans htc', forall_ecs_setOne hfind (by simpa [htc'] using hint) ht'⟩
  exact ⟨run_inRange ops s hb h, hpatched.2⟩

theorem trunc_in_range {x : Num} {a b : Int} (h1 : x.geC ⟨a, 0⟩ = true) (h2 : x.leC ⟨b, 0⟩ = true) :
    a ≤ trunc x ∧ trunc x ≤ b := by
  cases x with
  | int n =>
    simp only [Num.geC, Num.leC, Dy.le, decide_eq_true_eq, Int.pow_zero, Int.mul_one] at h1 h2
    exact ⟨h1, h2⟩
  | flt d =>
    simp only [Num.geC, Num.leC, Dy.le, decide_eq_true_eq, Int.pow_zero, Int.mul_one] at h1 h2
    have hm : (0 : Int) < 2 ^ d.k := Int.pow_pos (by decide)
    have hb := Int.tdiv_le_tdiv hm h2
    rw [Int.mul_tdiv_cancel _ (Int.ne_of_gt hm)] at hb
    exact ⟨Int.le_tdiv_of_mul_le hm h1, hb⟩
  | nan => simp [Num.geC] at h1
  | inf neg => cases neg <;> simp [Num.geC, Num.leC] at h1 h2

/-- for ECID 1 / 2, if the limits are declared as integers, the timeout / time format in force is within them -/
def BuiltinsOk (s : St) : Prop :=
  (∀ ec a b, s.findEc (.nums [1]) = some ec → ec.min = some ⟨a, 0⟩ → ec.max = some ⟨b, 0⟩ → a ≤ s.ect ∧ s.ect ≤ b)
  ∧ (∀ ec a b, s.findEc (.nums [2]) = some ec → ec.min = some ⟨a, 0⟩ → ec.max = some ⟨b, 0⟩ → a ≤ s.timeFormat ∧ s.timeFormat ≤ b)

theorem dy_eta (d : Dy) (h : d.k = 0) : d = ⟨d.num, 0⟩ := by cases d; simp_all

/-- one of the two settings, read by `get` and kept in step with the constant `j`: storing a pair that fitted keeps it within
the constant's integer limits -/
theorem builtin_setOne {s : St} {i : Id} {x : Num} (hf : Fits s (i, .num x)) (j : Id) (get : St → Int)
    (hget : get (setOne s i x) = if i = j then trunc x else get s)
    (hb : ∀ ec a b, s.findEc j = some ec → ec.min = some ⟨a, 0⟩ → ec.max = some ⟨b, 0⟩ → a ≤ get s ∧ get s ≤ b)
    (ec' : Ec) (a b : Int) (hf' : (setOne s i x).findEc j = some ec') (hk1 : ec'.min = some ⟨a, 0⟩) (hk2 : ec'.max = some ⟨b, 0⟩) :
    a ≤ get (setOne s i x) ∧ get (setOne s i x) ≤ b := by
  obtain ⟨ec, h0, hmin, hmax⟩ := limits_setOne hf'
  rw [hget]
  split
  · rename_i hi
    subst hi
    obtain ⟨ecf, y, hfe, hv, h1, h2, _⟩ := hf
    cases hv
    rw [h0] at hfe
    cases hfe
    rw [← hmin, hk1] at h1
    rw [← hmax, hk2] at h2
    exact trunc_in_range h1 h2
  · exact hb ec a b h0 (hmin ▸ hk1) (hmax ▸ hk2)

/-- **The timeout / time format in force never leave the declared integer limits**, after every history. -/
theorem builtin_ints_in_range : ∀ (ops : List Op) (s : St), BuiltinBounded s → BuiltinsOk s → BuiltinsOk (run s ops) :=
  run_induction
    (fun _ _ hc h => by
      obtain ⟨h1, _, h3, h4⟩ := consts_eq hc
      unfold BuiltinsOk St.findEc at h ⊢; rw [h1, h3, h4]; exact h)
    fun s i x hf h =>
      ⟨builtin_setOne hf _ (·.ect) (ect_setOne s i x) h.1, builtin_setOne hf _ (·.timeFormat) (tf_setOne s i x) h.2⟩

/-- **S5F1 exactly on changes of enabled alarms (set).**  For a known alarm: a report `(ALCD | 0x80, ALID, ALTX)` is sent iff
the alarm was not set and is enabled at that moment; the alarm is set afterwards; nothing else changes. -/
theorem set_alarm_reports (s : St) (i : Id) (a : Alarm) (h : s.findAlarm i = some a) :
    (setAlarm s i).2 = .ok (setReports a i)
    ∧ (setAlarm s i).1 = (if a.set then s else { s with alarms := updFirst (fun b => b.id = i) (fun b => { b with set := true }) s.alarms }) := by
  unfold setAlarm setReports
  simp only [h]
  cases a.set <;> cases a.enabled <;> simp

/-- the same for `clear_alarm`: a report `(ALCD, ALID, ALTX)` iff the alarm was set and is enabled; the alarm is cleared afterwards -/
theorem clear_alarm_reports (s : St) (i : Id) (a : Alarm) (h : s.findAlarm i = some a) :
    (clearAlarm s i).2 = .ok (clearReports a i)
    ∧ (clearAlarm s i).1 = (if a.set then { s with alarms := updFirst (fun b => b.id = i) (fun b => { b with set := false }) s.alarms } else s) := by
  unfold clearAlarm clearReports
  simp only [h]
  cases a.set <;> cases a.enabled <;> simp

/-- **Whether the host answers the S5F1 does not matter**: state and reports of `set_alarm`/`clear_alarm` are the same with an
S5F2 within T3 and with none — the alarm is latched because the equipment-side change happened; hence `set_alarm_reports` /
`clear_alarm_reports` (stated for the answered case) hold for the unanswered case too, and a repeated `set_alarm` after an
unanswered report sends no second S5F1. -/
theorem alarm_reply_independent (s : St) (i : Id) (r1 r2 : Bool) :
    setAlarm s i r1 = setAlarm s i r2 ∧ clearAlarm s i r1 = clearAlarm s i r2 := ⟨rfl, rfl⟩

/-- an unknown alarm id raises and changes nothing -/
theorem alarm_unknown (s : St) (i : Id) (h : s.findAlarm i = none) :
    setAlarm s i = (s, .error .valueError) ∧ clearAlarm s i = (s, .error .valueError) := by
  simp [setAlarm, clearAlarm, h]

theorem s5f5Loop_rows (s : St) : ∀ (ids : List Id) (rows : List AlarmRow), s5f5Loop s ids = .ok rows →
    rows.map some = ids.map (fun i => (s.findAlarm i).map (alarmRow i))
  | [], rows, h => by simp [s5f5Loop] at h; subst h; rfl
  | i :: rest, rows, h => by
    simp only [s5f5Loop] at h
    split at h
    · cases hf : s.findAlarm i with
      | none => simp only [hf] at h; cases h
      | some a =>
        simp only [hf] at h
        cases hr : s5f5Loop s rest with
        | error e => simp only [hr] at h; cases h
        | ok rs =>
          simp only [hr] at h
          cases h
          simp [s5f5Loop_rows s rest rs hr, hf]
    · cases h

/-- **S5F5**: when it answers, the rows are exactly the requested alarms in request order (all alarms for an empty request),
each with ALCD bit 8 = its current set state. -/
theorem s5f5_lists (s : St) (alids : List Id) (rows : List AlarmRow) (h : Tab.s5f5 s alids = .ok rows) :
    rows.map some = Spec.GemTables.s5f5 s alids := by
  unfold Tab.s5f5 at h
  unfold Spec.GemTables.s5f5
  cases alids with
  | nil => simpa using s5f5Loop_rows s _ rows h
  | cons i rest =>
    simp only [List.isEmpty_cons, Bool.false_eq_true, if_false] at h
    simpa using s5f5Loop_rows s _ rows h

/-- the loop of S5F5 does answer when every id it is given is a single-valued known alarm id (for the empty request the handler
gives it the ids of the alarm table) -/
theorem s5f5_answers (s : St) : ∀ ids : List Id, (∀ i ∈ ids, i.scalar = true ∧ s.findAlarm i ≠ none) → ∃ rows, s5f5Loop s ids = .ok rows
  | [], _ => ⟨[], rfl⟩
  | i :: rest, h => by
    obtain ⟨hs, hk⟩ := h i List.mem_cons_self
    obtain ⟨rs, hr⟩ := s5f5_answers s rest (fun x hx => h x (List.mem_cons_of_mem _ hx))
    cases hf : s.findAlarm i with
    | none => exact absurd hf hk
    | some a => exact ⟨alarmRow i a :: rs, by simp [s5f5Loop, hs, hf, hr]⟩

/-- **S5F7** lists exactly the enabled alarms, in table order, with their current set state. -/
theorem s5f7_exact (s : St) (r : AlarmRow) :
    (r ∈ s5f7 s ↔ ∃ a ∈ s.alarms, a.enabled = true ∧ r = ⟨a.code ||| (if a.set then 128 else 0), a.id, a.text⟩)
    ∧ (s5f7 s).map (·.id) = (s.alarms.filter (·.enabled)).map (·.id) := by
  unfold s5f7 alarmRow
  constructor
  · simp only [List.mem_map, List.mem_filter]
    constructor
    · rintro ⟨a, ⟨hm, he⟩, rfl⟩; exact ⟨a, hm, he, rfl⟩
    · rintro ⟨a, hm, he, rfl⟩; exact ⟨a, ⟨hm, he⟩, rfl⟩
  · simp [List.map_map]

/-- **S5F3** switches exactly the addressed alarm's enable flag (ALED bit 8), answers 1 for an unknown id. -/
theorem s5f3_effect (s : St) (aled : Nat) (i : Id) (hs : i.scalar = true) :
    (s.findAlarm i = none → s5f3 s aled i = (s, .code 1))
    ∧ (∀ a, s.findAlarm i = some a → s5f3 s aled i =
        ({ s with alarms := updFirst (fun b => b.id = i) (fun b => { b with enabled := decide (aled = 128) }) s.alarms }, .code 0)) := by
  unfold s5f3
  simp only [hs, if_true]
  constructor
  · intro h; simp [h]
  · intro a h; simp [h]

/-- the harness configuration (shape): the two GEM-defined constants (ECID 1, 2), integer-typed constants with both limits (30), only a
lower (35) and only an upper one (36), and a float-typed constant -/
def s0 (tc : Bool) : St :=
  { svs := [⟨.nums [1001], "Clock", "", .clock, .nums [0]⟩, ⟨.nums [30], "sv30", "u", .cell, .nums [7]⟩],
    ecs := [⟨.nums [1], "EstablishCommunicationsTimeout", some ⟨10, 0⟩, false, some ⟨120, 0⟩, false, .int 10, "sec", true, .int 10⟩,
            ⟨.nums [2], "TimeFormat", some ⟨0, 0⟩, false, some ⟨2, 0⟩, false, .int 1, "", true, .int 1⟩,
            ⟨.nums [30], "ec30", some ⟨0, 0⟩, false, some ⟨100, 0⟩, false, .int 50, "u", true, .int 50⟩,
            ⟨.nums [35], "ec35", some ⟨0, 0⟩, false, none, false, .int 5, "", true, .int 5⟩,
            ⟨.nums [36], "ec36", none, false, some ⟨0, 0⟩, false, .int (-5), "", true, .int (-5)⟩,
            ⟨.text "ecf", "ecf", some ⟨-3, 1⟩, true, some ⟨3, 1⟩, true, .flt ⟨0, 0⟩, "u", false, .flt ⟨0, 0⟩⟩],
    alarms := [⟨.nums [7], 3, "hot", false, false⟩],
    ect := 10, timeFormat := 1, clock0 := "c0", clock2 := "c2", clock1 := "c1", controlState := 3, eventsEnabled := [],
    typeCheck := tc }

example : InRange (s0 false) := by unfold InRange; decide +kernel
example : BuiltinsOk (s0 false) := by
  constructor
  · intro ec a b hf h1 h2
    cases hf
    cases h1
    cases h2
    decide
  · intro ec a b hf h1 h2
    cases hf
    cases h1
    cases h2
    decide
example : BuiltinBounded (s0 false) := by
  intro i ec hf hk
  have hm : ec ∈ (s0 false).ecs := List.mem_of_find?_eq_some hf
  have hid : ec.id = i := by simpa using List.find?_some hf
  subst hid
  simp only [s0, List.mem_cons, List.not_mem_nil, or_false] at hm
  -- ECID 1 and 2 declare both limits; the other four are plain constants
  rcases hm with rfl | rfl | rfl | rfl | rfl | rfl
  · exact ⟨rfl, rfl⟩
  · exact ⟨rfl, rfl⟩
  · exact absurd rfl hk
  · exact absurd rfl hk
  · exact absurd rfl hk
  · exact absurd rfl hk
example : TypeOk (s0 true) := by unfold TypeOk; decide +kernel

example : (s2f15 (s0 false) [(.nums [30], .num (.int 7)), (.text "ecf", .num (.flt ⟨3, 1⟩))]).2 = .code 0 := by decide +kernel
/-- NaN for the second constant is refused without touching the first -/
example : s2f15 (s0 false) [(.nums [2], .num (.int 0)), (.nums [1], .num .nan)] = (s0 false, .code 3) := by decide +kernel
example : s2f15 (s0 false) [(.nums [30], .num (.int 7)), (.nums [30], .other)] = (s0 false, .abort) := by decide +kernel
example : (setAlarm (s5f3 (s0 false) 128 (.nums [7])).1 (.nums [7])).2 = .ok [⟨131, .nums [7], "hot"⟩] := by decide +kernel
/-- an unanswered S5F1 still latches the alarm: the repeated set sends nothing -/
example : (setAlarm (setAlarm (s5f3 (s0 false) 128 (.nums [7])).1 (.nums [7]) false).1 (.nums [7]) true).2 = .ok [] := by decide +kernel

/-- constants with one limit only: the declared side is checked, the other side is open -/
example : (s2f15 (s0 false) [(.nums [35], .num (.int 1000000))]).2 = .code 0 := by decide +kernel
example : s2f15 (s0 false) [(.nums [30], .num (.int 7)), (.nums [35], .num (.int (-1)))] = (s0 false, .code 3) := by decide +kernel
example : s2f15 (s0 false) [(.nums [36], .num (.int 1))] = (s0 false, .code 3) := by decide +kernel
example : (s2f15 (s0 false) [(.nums [36], .num (.int (-1000000)))]).2 = .code 0 := by decide +kernel

/-- **Witness (finding, code as it is, `typeCheck = false`).**  S2F15 accepts the float 1.5 for the integer-typed constant 30
(it lies within `[0, 100]`); afterwards S2F13 — for that constant and for the whole table — is an abort instead of the reply
the property demands: `TypeOk` is not an invariant of the unpatched handler. -/
theorem witness_float_on_int_constant :
    let r := s2f15 (s0 false) [(.nums [30], .num (.flt ⟨3, 1⟩))]
    r.2 = .code 0 ∧ Tab.s2f13 r.1 [.nums [30]] = .error .valueError ∧ Tab.s2f13 r.1 [] = .error .valueError ∧ ¬ TypeOk r.1 := by
  refine ⟨by decide +kernel, by decide +kernel, by decide +kernel, ?_⟩
  intro h
  have := h ⟨.nums [30], "ec30", some ⟨0, 0⟩, false, some ⟨100, 0⟩, false, .int 50, "u", true, .flt ⟨3, 1⟩⟩ (by decide +kernel) rfl
  revert this; decide

/-- with the proposed pre-check the same request is refused with EAC 3 and nothing changes -/
example : s2f15 (s0 true) [(.nums [30], .num (.flt ⟨3, 1⟩))] = (s0 true, .code 3) := by decide +kernel

end SecsModel.Props.C13
