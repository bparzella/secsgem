import SecsModel.Proofs.SecsIReasm
import SecsModel.Gen.Reasm
/-!
# C16 — SECS-I blocks split, checksum and reassemble any message body without loss

The header codec, the length/checksum widths with the block size, and the key and statements of `_add_message_block` are generated
from the Python source (`Gen.SecsIHeader`, `Gen.BlockFmt`, `Gen.Reasm`); `Block.checksum/encode/decode`, `_split_blocks`/`from_block`,
`SecsIMessage.header/data/complete` and `_add_message_block` are the hand model `Model.SecsI`, run against the real classes by
`tools/harness/c16.py`.  `reassembly` is about blocks (their trip through `Block.encode`/`Block.decode` is `block_roundtrip`) and about
messages with pairwise distinct system bytes.
-/
namespace SecsModel.Props.C16
open SecsModel SecsModel.Gen SecsModel.Proofs.SecsIHdr SecsModel.Model.SecsI SecsModel.Proofs.SecsI SecsModel.Proofs.SecsIReasm

/-- The generated `SecsIHeader.encode` turns every header with in-range fields into ten bytes from which the generated `decode`
recovers every field.  (The ten bytes are the E4 layout `specBytes`: `SecsIHdr.encode_nat`, the bytes the proof exhibits.) -/
theorem header_roundtrip (h : SecsIHeader) (hr : InRange h) :
    ∃ bs, h.encode = .ok bs ∧ bs.length = 10 ∧ SecsIHeader.decode bs = .ok h := by
  -- an in-range header is `⟨↑sy, ↑dv, ↑st, ↑fn, ↑bl, r, w, e⟩` for naturals within the E4 widths; then `encode_nat` and `decode_spec`
  obtain ⟨sy, dv, st, fn, bl, r, w, e⟩ := h
  obtain ⟨⟨s0, s1⟩, ⟨d0, d1⟩, ⟨t0, t1⟩, ⟨f0, f1⟩, ⟨b0, b1⟩⟩ := hr
  simp only at s0 s1 d0 d1 t0 t1 f0 f1 b0 b1
  obtain ⟨sy, rfl⟩ := Int.eq_ofNat_of_zero_le s0
  obtain ⟨dv, rfl⟩ := Int.eq_ofNat_of_zero_le d0
  obtain ⟨st, rfl⟩ := Int.eq_ofNat_of_zero_le t0
  obtain ⟨fn, rfl⟩ := Int.eq_ofNat_of_zero_le f0
  obtain ⟨bl, rfl⟩ := Int.eq_ofNat_of_zero_le b0
  have hsy : sy < 2^32 := by omega
  have hdv : dv < 2^15 := by omega
  have hst : st < 2^7 := by omega
  have hfn : fn < 2^8 := by omega
  have hbl : bl < 2^15 := by omega
  refine ⟨specBytes sy dv st fn bl r w e, encode_nat sy dv st fn bl r w e hsy hdv hst hfn hbl, ?_,
    decode_spec sy dv st fn bl r w e hsy hdv hst hfn hbl⟩
  simp [specBytes]

example : InRange ⟨0xFFFFFFFF, 0x7FFF, 127, 255, 0x7FFF, true, true, true⟩ := by decide

/-- `split` (`_split_blocks`) with the generated block size 244 put in: the numbering loop over `dataBlocks body` -/
theorem split_eq (h : Header) (body : Bytes) :
    split h body = number h true (dataBlocks body).length 0 (dataBlocks body) := Proofs.SecsI.split_eq h body true

/-- **Split, all body lengths.**  The blocks' data concatenate to the body; there are `max 1 ⌈len/244⌉` of them; none
carries more than 244 bytes; block `j` (0-based) is numbered `j+1`, carries the end bit iff it is the last, and has every
other header field of the message header. -/
theorem split_correct (h : Header) (body : Bytes) :
    ((split h body).map (·.data)).flatten = body
    ∧ (split h body).length = max 1 ((body.length + 243) / 244)
    ∧ (∀ b ∈ split h body, b.data.length ≤ 244)
    ∧ (∀ j, j < (split h body).length → ((split h body)[j]?).map (·.header) =
        some { h with block := ((j + 1 : Nat) : Int), last_block := decide (j + 1 = (split h body).length) }) :=
  ⟨by rw [split_data, dataBlocks_flatten], split_length h body, split_data_le h body,
    fun j hj => by rw [List.getElem?_eq_getElem hj, Option.map_some, split_header h body j hj]⟩

/-- **Block round-trip.**  Every block whose header fields are in range and whose data fits a block encodes, and decoding
the encoding gives the block back (header and data identical, checksum accepted). -/
theorem block_roundtrip (h : Header) (data : Bytes) (hr : InRange h) (adata : AllBytes data) (hn : data.length ≤ 244) :
    ∃ raw, Block.encode ⟨h, data⟩ = .ok raw ∧ raw.length = data.length + 13 ∧ AllBytes raw ∧
      Block.decode raw = .ok (some ⟨h, data⟩) := by
  obtain ⟨hb, henc, hhb, hdec⟩ := header_roundtrip h hr
  have ahb := encode_allBytes _ _ henc
  refine ⟨_, encode_ok henc adata (Nat.le_succ_of_le hn), ?_, ?_, ?_⟩
  · simp only [List.length_cons, List.length_append, hhb, be_length]; omega
  · exact AllBytes.cons_iff.mpr ⟨show 10 + data.length < 256 by omega, AllBytes.append_iff.mpr ⟨ahb, AllBytes.append_iff.mpr ⟨adata, be_allBytes _ _⟩⟩⟩
  · rw [decode_frame hdec henc _ _ (be_length ..), if_pos rfl, ofBe_be_of_lt _ _ (sum_lt hhb ahb adata (Nat.le_succ_of_le hn)),
      if_pos rfl]

/-- **Corruption is never accepted.**  Take the encoding of any valid block and replace the byte at any one offset `i`
(length byte, header, data or checksum) by any different byte value `v`: decoding the result never yields a block —
it is either a `struct.error` or the `None` of a checksum mismatch.  (`hr`, `adata`, `hn` only fix the reading "valid block";
the proof, `Proofs.SecsI.decode_set`, needs `henc` alone and says which of the two it is.) -/
theorem corruption_rejected (h : Header) (data : Bytes) (hr : InRange h) (adata : AllBytes data) (hn : data.length ≤ 244)
    (raw : Bytes) (henc : Block.encode ⟨h, data⟩ = .ok raw) (i v : Nat) (hi : i < raw.length) (hv : v < 256)
    (hne : raw[i]? ≠ some v) :
    ∀ b, Block.decode (raw.set i v) ≠ .ok (some b) := by
  intro b
  rw [decode_set henc hi hv hne]
  split <;> exact fun c => nomatch c

/-- non-vacuity: the hypotheses of `block_roundtrip`/`corruption_rejected` hold for a full 244-byte block -/
example : InRange ⟨7, 1, 1, 2, 1, true, true, false⟩ ∧ AllBytes (List.replicate 244 255) ∧ (List.replicate 244 255).length ≤ 244 := by
  refine ⟨by decide, ?_, by rw [List.length_replicate]; exact Nat.le_refl _⟩
  intro x hx; rw [List.mem_replicate] at hx; omega

/-- **The decoder accepts only canonical encodings.**  Whenever `Block.decode` returns a block for a byte string, that byte
string is exactly `Block.encode` of the returned block: no second wire form of any block is accepted, and the data field is
at most 245 bytes (the length byte bounds it). -/
theorem decode_canonical (raw : Bytes) (araw : AllBytes raw) (b : Block) (hd : Block.decode raw = .ok (some b)) :
    Block.encode b = .ok raw ∧ b.data.length ≤ 245 := by
  obtain ⟨l, hb, data, ck, rfl, hhb, rfl, hck⟩ := frame_of_decode_ok hd
  obtain ⟨hl, ahb, adata, ack⟩ : _ ∧ _ ∧ _ ∧ _ := by simpa only [AllBytes.cons_iff, AllBytes.append_iff] using araw
  obtain ⟨h, hdec, _, henc⟩ := encode_decode hb hhb ahb
  rw [decode_frame hdec henc _ _ hck, if_pos rfl] at hd
  split at hd
  · rename_i hs
    cases hd
    have hn : data.length ≤ 245 := by omega
    exact ⟨by rw [encode_ok (b := ⟨h, data⟩) henc adata hn, hs, ← hck, be_ofBe ck ack], hn⟩
  · cases hd

/-- **Decoding is injective on what it accepts**: two byte strings that both decode to the same block are the same byte string. -/
theorem decode_injective (r1 r2 : Bytes) (a1 : AllBytes r1) (a2 : AllBytes r2) (b : Block)
    (h1 : Block.decode r1 = .ok (some b)) (h2 : Block.decode r2 = .ok (some b)) : r1 = r2 := by
  have e1 := (decode_canonical r1 a1 b h1).1
  have e2 := (decode_canonical r2 a2 b h2).1
  rw [e1] at e2
  injection e2

/-- **Reassembly under interleaving.**  Split any number of messages whose system bytes are pairwise distinct, interleave
their blocks in ANY way (each message's own blocks in order) and feed them to the reassembly of `_add_message_block`:
for every message `i`, exactly one message is completed under its system bytes, it consists of exactly the blocks of
`split hᵢ bodyᵢ` (hence, by `split_correct`, its data is `bodyᵢ` and its header is `hᵢ` with the last block's number and
the end bit), nothing is left pending for it, and nothing is completed under any other key. -/
theorem reassembly (ms : List (Header × Bytes)) (hnd : (ms.map (·.1.system)).Nodup) (bs : List Block)
    (hI : Interleaving (ms.map (fun m => split m.1 m.2)) bs) :
    (∀ i (hi : i < ms.length),
        ((reassembleK [] bs).2.filter (·.1 == ms[i].1.system)).map (·.2) = [split ms[i].1 ms[i].2]
        ∧ (reassemble [] bs).1.lookup ms[i].1.system = none
        ∧ Message.data (split ms[i].1 ms[i].2) = ms[i].2)
    ∧ (∀ e ∈ (reassembleK [] bs).2, ∃ i, ∃ (hi : i < ms.length), e.1 = ms[i].1.system)
    ∧ (reassembleK [] bs).2.map (·.2) = (reassemble [] bs).2 := by
  refine ⟨?_, ?_, reassembleK_snd bs []⟩
  · intro i hi
    have hkey : ∀ j (hj : j < ms.length), ms[j].1.system = ms[i].1.system ↔ j = i := fun j hj => by
      have := List.getElem_inj (i := j) (j := i) (h₀ := by simpa using hj) (h₁ := by simpa using hi) hnd
      simpa only [List.getElem_map] using this
    have hf : bs.filter (keyOf · == ms[i].1.system) = split ms[i].1 ms[i].2 :=
      hI.filter _ (by rw [List.getElem?_map, List.getElem?_eq_getElem hi]; rfl) (fun j l' hl' x hx => by
        obtain ⟨hj, rfl⟩ := List.getElem?_eq_some_iff.mp hl'
        rw [List.getElem_map] at hx
        rw [split_system _ _ x hx, Bool.eq_iff_iff, beq_iff_eq, decide_eq_true_iff]
        exact hkey j (by simpa using hj))
    have hl := reassemble_local bs [] ms[i].1.system
    rw [hf, lookup_nil, runK_split, Prod.mk.injEq] at hl
    exact ⟨hl.2, by rw [← reassembleK_fst]; exact hl.1, (split_correct ms[i].1 ms[i].2).1⟩
  · intro e he
    obtain ⟨b, hb, hk⟩ := reassembleK_keys bs [] e he
    obtain ⟨l, hl, hbl⟩ := mem_of_interleaving _ bs hI b hb
    obtain ⟨m, hm, rfl⟩ := List.mem_map.mp hl
    obtain ⟨i, hi, rfl⟩ := List.getElem_of_mem hm
    exact ⟨i, hi, by rw [hk, split_system _ _ b hbl]⟩

/-- non-vacuity: two transactions (3 blocks and 1 block) interleaved `a1 b1 a2 a3` satisfy the hypotheses, and the
executable model returns both messages with the pending table empty -/
example :
    let a := split ⟨1, 5, 1, 3, 0, false, true, true⟩ (List.replicate 500 1)
    let b := split ⟨2, 5, 6, 11, 0, true, false, true⟩ [9]
    let r := reassemble [] (a.take 1 ++ b ++ a.drop 1)
    (r.2.map Message.data = [[9], List.replicate 500 1]) ∧ r.1 = [] := by decide +kernel

/-- non-vacuity / sanity: a 245-byte body gives two blocks of 244 and 1 bytes -/
example : ((split ⟨1, 2, 3, 4, 0, false, true, true⟩ (List.replicate 245 7)).map (fun b => (b.header.block, b.header.last_block, b.data.length)))
    = [(1, false, 244), (2, true, 1)] := by decide +kernel

/-- **The table of incomplete messages is keyed by the full system bytes.**  `Gen.Reasm.key` is the translated expression that indexes
`self._incomplete_messages` (the translator refuses a method that uses two different ones); it is the key of the model's `addBlock`.
Any coarser key (a mask, the transaction half of the system bytes) merges open messages that `reassembly` keeps apart. -/
theorem reassembly_key_is_system_bytes (b : Block) :
    Gen.Reasm.key b.header.system b.header.device_id b.header.stream b.header.function b.header.block = keyOf b := rfl

/-- the statements of `_add_message_block` and the three `SecsIMessage` properties are the ones `addBlock`, `extend`, `Message.data`,
`Message.header?` and `Message.complete` model: create-from-block or append, look at the last block's end bit, remove and hand over -/
theorem reassembly_statements :
    Gen.Reasm.skeleton = [
      "if K not in T: ; T[K] = self.message_type.from_block(block) ; else: ; T[K].blocks.append(block)",
      "message = T[K]",
      "if not message.complete: ; return None",
      "del T[K]",
      "return message"]
    ∧ Gen.Reasm.msgHeader = "self._blocks[-1].header"
    ∧ Gen.Reasm.msgData = "b''.join((block.data for block in self._blocks))"
    ∧ Gen.Reasm.msgComplete = "self.blocks[-1].header.last_block"
    ∧ Gen.Reasm.fromBlock = "cls(block.header, block.data, complete=False)" := ⟨rfl, rfl, rfl, rfl, rfl⟩

end SecsModel.Props.C16
