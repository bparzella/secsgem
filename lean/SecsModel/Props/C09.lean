import SecsModel.Proofs.HsmsWedge
import SecsModel.Props.C04
import SecsModel.Gen.HsmsGuards
import SecsModel.Gen.HsmsProto
/-!
# C09 — No peer behaviour wedges the endpoint: link loss ends in a clean, reusable state

`Model.Wedge` is the thread/pc-level hand model of the protocol receiver thread, the dispatcher thread and the close sequence;
`Model.TcpStop` of the two stop-flag handshakes of the TCP connection classes.  Assumed, not modelled: the scheduler is weakly fair
(an enabled thread eventually runs — it only enters through "maximal run"), `Connection.send_data` returns (`True` or `False`), and the
operating system's socket behaviour.  The models follow `/repo` HEAD, i.e. with the repairs 725a0b2 (receive loop), 8ac2aeb (send queue
loop), 1a14b53 (stop-flag handshakes), 814c548 (a connection is accepted only after the teardown of the previous one) and 3d90218 (the restart
hook joins the accepting thread); the behaviour before a repair is kept for regression witnesses, as a model variant or, for 814c548, as
`Model.Wedge.connectEarly`.
-/
namespace SecsModel.Props.C09
open SecsModel SecsModel.Model.Rx SecsModel.Model.Wedge SecsModel.Proofs.HsmsWedge SecsModel.Proofs.HsmsRx

/-- **Never wedged.**  In every reachable state the receiver thread is not inside a blocking read, and whenever the close sequence has begun and
not finished some thread of the endpoint can take a step.  `Reachable` covers any byte stream, cut into any segments (`chunk c` for arbitrary `c`:
every cut offset, inside the length field, header or body), any number of connections, the close sequence started at any moment, any
interleaving of the three threads, any block contents (`disp reply` for both values: in every session state a request may or may not be
answered), any result of every `send_data` (`prx ok` for both values) — in histories in which a connection is established only after the
previous close sequence has finished (`connect` needs `tcp = done`): the in-memory connection guarantees that by construction and the TCP
transport by `connect_follows_teardown` below. -/
theorem never_wedged (s : St) (h : Reachable s) : s.prx ≠ .blockedRead ∧ wedged .current s = false :=
  ⟨(inv_reachable s h).noBlocked, not_wedged_of_inv s (inv_reachable s h)⟩

/-- **Close completes within a step bound under weak fairness.**  From any reachable state in which the close sequence has begun, *every*
maximal run of the endpoint's own threads (a run that ends where no thread can take a step — which is where a weakly fair scheduler ends
up) has at most `mu s` steps and ends with the close sequence finished: connection thread done, NOT CONNECTED, empty receive buffer,
receiver thread exited. -/
theorem close_completes (s s' : St) (ls : List Lbl) (h : Reachable s) (hc : s.tcp.closing = true)
    (hl : ∀ l ∈ ls, l.internal = true) (hr : run .current s ls = some s') (hq : quiescent .current s' = true) :
    ls.length ≤ mu s ∧ s'.tcp = .done ∧ s'.conn = false ∧ s'.buf = [] ∧ s'.prx = .exited :=
  close_completes_of_inv (inv_reachable s h) hc hl hr hq

/-- … and such maximal runs exist from every state (the bound is not vacuous): the endpoint's own threads can always run to quiescence -/
theorem close_reachable (s : St) :
    ∃ ls s', (∀ l ∈ ls, l.internal = true) ∧ run .current s ls = some s' ∧ quiescent .current s' = true := by
  by_cases hq : quiescent .current s = true
  · exact ⟨[], s, by simp, rfl, hq⟩
  · obtain ⟨l, hl, hen⟩ : ∃ l ∈ internals, step .current s l ≠ none := by simpa [quiescent] using hq
    have hli : l.internal = true := (by decide : ∀ l ∈ internals, l.internal = true) l hl
    cases hs : step .current s l with
    | none => exact absurd hs hen
    | some s1 =>
      have : mu s1 < mu s := (Step.of_eq hs).mu_lt hli
      obtain ⟨ls, s', hls, hr, hq'⟩ := close_reachable s1
      exact ⟨l :: ls, s', by simpa [hli] using hls, by simpa [run, hs] using hr, hq'⟩
termination_by mu s

/-- **The premise of `Reachable` is discharged by the transport** (repair 814c548): the statement of `TcpConnection.__receiver_thread` that
starts the next listen/connect cycle is its last one — the `_connection_closed()` hook, after the `on_disconnected` listeners and the reset
of the flags —, both TCP classes implement that hook, and neither registers a listener of its own on `on_disconnected`.  So a `connect`
follows a finished close sequence; the overlap of `overlapping_connect_kills_new_connection` needs one of these three to fail. -/
theorem connect_follows_teardown :
    Gen.HsmsGuards.receiverThreadLast = "self._connection_closed()"
    ∧ Gen.HsmsGuards.ownDisconnectedListeners = []
    ∧ Gen.HsmsGuards.closedHooks = ["TcpClientConnection", "TcpServerConnection"] := by decide +kernel

/-- **The close sequence the model runs is the one in the source** (generated from it on every run):
`_on_disconnecting` is `send_separate_req()`; `_on_disconnected` is, in this order, `_connected = False`, `connection_state.disconnect()`,
`_thread.stop()`, `_receive_buffer.clear()` and only then `events.fire("disconnected")` — `Model.Wedge`'s `sepEnq/sepWait`, `discon`, `join`,
`clear`, `done`.  In particular no application callback runs before the protocol's own teardown is complete: a listener that raises (the
connection layer logs and ignores it) cannot leave the endpoint CONNECTED, its receiver thread running or stale bytes in the buffer. -/
theorem close_sequence_order :
    Gen.HsmsProto.onDisconnecting = ["send_separate_req"]
    ∧ Gen.HsmsProto.onDisconnected = ["set_connected 0", "sm.disconnect", "thread.stop", "receive_buffer.clear", "fire disconnected"] := by
  decide +kernel

/-- a Linktest.req -/
def linktest : Bytes := [0, 0, 0, 10, 0xFF, 0xFF, 0, 0, 0, 5, 0, 0, 0, 7]
/-- its first 7 bytes -/
def cut7 : Bytes := [0, 0, 0, 10, 0xFF, 0xFF, 0]

/-- connect, 7 of the 14 bytes arrive, the receiver thread runs its loop and goes back to waiting, the peer closes -/
def cutThenClose : List Lbl := [.connect, .chunk cut7, .prx true, .prx true, .prx true, .prx true, .prx true, .close]
/-- a schedule that runs the close sequence to quiescence from there (13 steps): the Separate.req is queued and sent, the receiver thread is
stopped and joined, the buffer cleared -/
def closeSteps : List Lbl :=
  [.tcp, .prx true, .prx true, .prx true, .prx true, .prx true, .prx true, .tcp, .tcp, .prx true, .prx true, .tcp, .tcp]

/-- non-vacuity of `never_wedged`/`close_completes`: `cutThenClose` leads to a reachable state inside the close sequence … -/
example : ∃ s, run .current St.init cutThenClose = some s ∧ s.tcp = .sepEnq ∧ s.buf = cut7 ∧ s.prx = .idle := by
  decide +kernel
/-- … and it is `Reachable` in the sense of the theorems, with the close sequence begun -/
example : ∃ s, Reachable s ∧ s.tcp.closing = true ∧ s.rxErr = false ∧ s.tcp ≠ .done :=
  ⟨_, ⟨cutThenClose, rfl⟩, by decide +kernel, by decide +kernel, by decide +kernel⟩
example : ∃ s s', run .current St.init cutThenClose = some s ∧ run .current s closeSteps = some s' ∧ quiescent .current s' = true
    ∧ s'.tcp = .done ∧ s'.conn = false ∧ s'.buf = [] ∧ s'.prx = .exited ∧ closeSteps.length ≤ mu s := by
  refine ⟨_, _, rfl, rfl, ?_⟩; decide +kernel

/-- **regression witness for the repaired defect** (F-12, `fixed:` 725a0b2): with the blocking read of the receive loop
(`Variant.blockingRead`), the same history — 7 of 14 bytes of a Linktest.req, then peer close — reaches a *wedged* state: the connection thread
waits for its Separate.req, the receiver thread sits in `wait_for`, nothing can move.  The model tells the two loops apart. -/
theorem blocking_read_wedges :
    ∃ s, run .blockingRead St.init [.connect, .chunk cut7, .prx true, .prx true, .prx true, .prx true, .close, .tcp] = some s
      ∧ s.prx = .blockedRead ∧ s.tcp = .sepWait ∧ wedged .blockingRead s = true := by
  decide +kernel

/-- `Model.Wedge`'s `connect` step keeps no memory of a Select thread of an earlier connection.  What it would have to remember if the code looked
at one: does a connect start the active entity's Select procedure?  `guardIsActiveOnly`: the condition in `_on_state_connect` is
`self._settings.is_active` and nothing else; `earlierAlive`: a Select thread of an earlier connection is still waiting for its T6 -/
def selectStarts (guardIsActiveOnly active earlierAlive : Bool) : Bool :=
  if guardIsActiveOnly then active else active && !earlierAlive

/-- **Every connect of an active endpoint starts the Select procedure** — also when the Select transaction of the previous connection is
still open (link lost before the Select.rsp, reconnect before T6): the condition extracted from `HsmsProtocol._on_state_connect` is
exactly `self._settings.is_active`. -/
theorem select_on_every_connect :
    Gen.HsmsGuards.selectGuard = "self._settings.is_active"
    ∧ ∀ earlierAlive, selectStarts (Gen.HsmsGuards.selectGuard == "self._settings.is_active") true earlierAlive = true := by
  decide +kernel

/-- the hypothesis is not idle: with a guard that also looks at an earlier Select thread, a reconnect inside T6 starts nothing -/
example : selectStarts false true true = false := by decide +kernel

/-- **No stale received bytes, at thread level** (the receive direction of "carries no stale bytes into the next connection"; the send
direction is refuted by `stale_reply_into_next_connection`).  In every reachable state of a connection on which no frame was dropped by a
decode exception: the blocks delivered since the connect, followed by what the loop would still deliver from the buffer, are exactly what one run of the
receive loop makes of the bytes received *on this connection* — nothing left over from an earlier connection takes part, whatever the
earlier connections received, wherever they were cut, and however the threads interleaved. -/
theorem no_stale_received_bytes (s : St) (h : Reachable s) (hc : s.tcp ≠ .done) (he : s.rxErr = false) :
    s.delivered.drop s.mark ++ (extract s.buf).frames = (extract s.fed).frames
    ∧ (extract s.buf).rest = (extract s.fed).rest := by
  have := (ghost_reachable s h).2 hc he
  rw [this]; exact ⟨rfl, rfl⟩

/-- … in particular, when the bytes received on the new connection are the stream of valid blocks `bs`, then what has been delivered on it
plus what is still to be delivered is exactly `bs` (C04's `extract` of the new stream only) -/
theorem no_stale_received_bytes_valid (s : St) (h : Reachable s) (hc : s.tcp ≠ .done) (he : s.rxErr = false)
    (bs : List Block) (hv : ∀ b ∈ bs, Valid b) (hf : s.fed = wire bs) :
    s.delivered.drop s.mark ++ (extract s.buf).frames = bs := by
  have := (no_stale_received_bytes s h hc he).1
  rw [hf, extract_wire_nil bs hv] at this
  exact this

/-- after the close sequence the receive buffer is empty and the endpoint reports NOT CONNECTED, in every reachable state -/
theorem closed_is_clean (s : St) (h : Reachable s) (hd : s.tcp = .done) : s.buf = [] ∧ s.conn = false ∧ s.prx.alive = false :=
  ⟨(inv_reachable s h).doneBuf hd, ((inv_reachable s h).cleared (Or.inr hd)).2, ((inv_reachable s h).cleared (Or.inr hd)).1⟩

/-- the same at the level of `Model.Rx` (sequential composition with C04): clear the buffer, then any segmentation of a stream of valid
blocks delivers exactly those blocks after whatever had been delivered before -/
theorem reconnect_segmentation (s : Rx) (bs : List Block) (hv : ∀ b ∈ bs, Valid b) (chunks : List Bytes) (hc : chunks.flatten = wire bs) :
    chunks.foldl feed s.disconnect = ⟨[], s.delivered ++ bs, s.aborts⟩ := by
  have hw := extract_wire_nil bs hv
  have := foldl_feed chunks s.disconnect extract_nil (by simp only [Rx.disconnect, List.nil_append, hc, hw])
  simpa [Rx.disconnect, hc, hw] using this

/-- non-vacuity: cut inside a Linktest.req, close, reconnect, a complete Linktest.req: exactly one block is delivered on the second
connection and the buffer ends empty (behind the stale 7 bytes the loop would have cut a 14-byte garbage frame, a data message S0F0, and kept
7 bytes) -/
example : ∃ s, run .current St.init (cutThenClose ++ closeSteps ++ [.connect, .chunk linktest, .prx true, .prx true, .prx true, .prx true, .prx true, .prx true])
      = some s ∧ s.delivered.length = 1 ∧ s.mark = 0 ∧ s.buf = [] ∧ s.rxErr = false ∧ s.prx = .idle := by
  decide +kernel

/-- the schedule of the repaired send-queue defect: a Linktest.req is answered by the dispatcher and the peer's close is noticed before the
receiver thread wakes up (reply and Separate.req queued under ONE trigger); then the reply's `send_data` fails -/
def sendFails : List Lbl :=
  [.connect, .chunk linktest, .prx true, .prx true, .prx true, .prx true, .prx true, .prx true,
   .disp true, .disp true, .close, .tcp, .prx true, .prx true, .prx false]

/-- **regression witness for the repaired defect** (`fixed:` 8ac2aeb): with the send loop that *returned* after a failed
block (`Variant.returningSendLoop`) the receiver thread goes back to waiting with the Separate.req still queued and the trigger clear; the
connection thread waits for it for ever — wedged.  With the loop that exists the same history runs on and the close sequence finishes. -/
theorem send_failure_strands_separate :
    (∃ s, run .returningSendLoop St.init (sendFails ++ [.prx true, .prx true, .disp true, .disp true]) = some s
      ∧ s.tcp = .sepWait ∧ s.sendQ = [.sep] ∧ s.prx = .idle ∧ s.rxTrig = false ∧ wedged .returningSendLoop s = true)
    ∧ (∃ s, run .current St.init (sendFails ++ [.prx true, .prx true, .prx true, .prx true, .tcp, .tcp, .prx true, .prx true, .tcp, .tcp,
          .disp true, .disp true]) = some s
      ∧ s.tcp = .done ∧ s.conn = false ∧ s.buf = [] ∧ s.prx = .exited ∧ s.sendQ = [] ∧ quiescent .current s = true) := by
  decide +kernel

/-- **regression witness (`proposals/C09-relisten-overlaps-teardown.md`, fixed 814c548): a connection accepted while the previous one is still being torn
down is killed by that teardown.**  The peer closes; the old connection's thread has sent its Separate.req and stands before
`HsmsProtocol._on_disconnected`; the restarted listener accepts a new peer and `_on_connected` runs (`connectEarly`); then the old thread
goes on: `connection_state.disconnect()`, `ProtocolDispatcher.stop()` — which finds a live receiver thread (the NEW one), stops and joins
it — `_receive_buffer.clear()`.  The endpoint's threads come to rest NOT CONNECTED with the receiver thread stopped, although nobody closed
the new connection (nothing was received or sent on it: `fed = []`, `out = []`). -/
theorem overlapping_connect_kills_new_connection :
    ∃ s0 s1 s2, run .current St.init [.connect, .close, .tcp, .prx true, .prx true, .prx true, .prx true, .prx true, .tcp] = some s0
      ∧ s0.tcp = .discon
      ∧ connectEarly s0 = some s1 ∧ s1.conn = true ∧ s1.prx = .idle
      ∧ run .current s1 [.tcp, .prx true, .prx true, .tcp, .tcp] = some s2
      ∧ quiescent .current s2 = true ∧ s2.conn = false ∧ s2.prx = .exited ∧ s2.fed = [] ∧ s2.out = [] := by
  exact ⟨_, _, _, rfl, by decide +kernel, rfl, by decide +kernel, by decide +kernel, rfl, by decide +kernel⟩

/-- **witness (finding `c09-stale-reply-next-connection`): a reply queued after the receiver thread has been stopped is carried into the
next connection.**  The dispatcher thread is
never stopped (F-8); a block still in the dispatch queue when the close sequence runs is handled afterwards, its handler queues the answer
and waits — until the next connection's receiver thread sends the stale answer as the first thing on the new connection. -/
theorem stale_reply_into_next_connection :
    ∃ s, run .current St.init ([.connect, .chunk linktest, .prx true, .prx true, .prx true, .prx true, .prx true, .prx true, .close] ++ closeSteps
        ++ [.disp true, .disp true]) = some s
      ∧ s.tcp = .done ∧ s.disp = .waitReply ∧ s.sendQ = [.reply] ∧ quiescent .current s = true
      ∧ ∃ s', run .current s [.connect, .prx true, .prx true, .prx true] = some s' ∧ s'.out = [.reply] ∧ s'.fed = [] := by
  decide +kernel

/-! The stop-flag handshakes of the TCP connection classes.  The code that exists is `fixed = true` (repair 1a14b53) and, for the server,
`joins = true` (3d90218: `Server.step = stepV _ true`); `fixed = false` and `stepV true false` are the handshakes before those repairs (F-13;
`proposals/C09-tcp-disable-hang.md`, `proposals/C09-relisten-bind-race.md`).  The server half of `Model.TcpStop` repeats the client half, and so do
the lemmas here. -/

open SecsModel.Model.TcpStop in
/-- **regression witness, client, before the repair** (`TcpClientConnection`): `enable()`; the connect thread connects and is running the `on_connected` listeners when
`disable()` is called: `disable()` sets `stop_connection_thread` (the thread is alive) and waits for the thread to reset it; the thread
returns from `__connect` and ends without looking at the flag.  `disable()` is stuck. -/
theorem client_disable_hang :
    ∃ s, Client.run false Client.St.init [.thr true, .thr true, .thr true, .app, .app, .app, .thr true] = some s
      ∧ s.thr = .dead ∧ s.rcv = .run ∧ Client.stuck s = true := by
  decide +kernel

open SecsModel.Model.TcpStop in
/-- in a stuck state only the receiver thread and the peer can move, and they touch nothing `stuck` reads -/
theorem client_stuck_step {a b : Client.St} {l : Client.Lbl} (ha : Client.stuck a = true) (hs : Client.step false a l = some b) :
    Client.stuck b = true := by
  obtain ⟨en, fl, fi, sr, ap, th, rc⟩ := a
  simp only [Client.stuck, Bool.and_eq_true, decide_eq_true_eq, Bool.not_eq_true'] at ha
  obtain ⟨⟨⟨rfl, rfl⟩, h3⟩, rfl⟩ := ha
  cases th <;> cases h3
  cases l with
  -- `disable()` spins on the flag and the connect thread is dead: both disabled
  | app => simp [Client.step] at hs
  | thr ok => simp [Client.step] at hs
  -- the receiver thread and the peer touch `rcv` and `stopRcv` only
  | rcv => cases rc <;> simp [Client.step] at hs <;> simp [← hs, Client.stuck, Client.ThrPc.isAlive]
  | peerClose => simp [Client.step] at hs; simp [← hs, Client.stuck, Client.ThrPc.isAlive]

open SecsModel.Model.TcpStop in
/-- … and stuck is for ever: no step of any thread, and no peer behaviour, leads out of a stuck state -/
theorem client_stuck_forever (s s' : Client.St) (ls : List Client.Lbl) (h : Client.stuck s = true)
    (hr : Client.run false s ls = some s') : Client.stuck s' = true ∧ s'.app = .spin := by
  induction ls generalizing s with
  | nil =>
    cases hr
    exact ⟨h, by simp only [Client.stuck, Bool.and_eq_true, decide_eq_true_eq] at h; exact h.1.1.1⟩
  | cons l ls ih =>
    simp only [Client.run] at hr
    split at hr
    · exact ih _ (client_stuck_step h ‹_›) hr
    · cases hr

open SecsModel.Model.TcpStop in
/-- **regression witness, server, before the repair** (`TcpServerConnection`): a peer connects, the server thread accepts and is running the `on_connected` listeners when
`disable()` is called: `disable()` sets `_stop_server_thread`, closes the listening socket and waits; the thread goes on to
`shutdown()`/`close()` of the (already closed) socket and ends — the flag is never reset.  `disable()` is stuck. -/
theorem server_disable_hang :
    ∃ s, Server.run false Server.St.init [.thr true, .thr true, .thr true, .thr true, .thr true, .app, .app, .app, .thr true, .thr true] = some s
      ∧ s.thr = .dead ∧ s.rcv = .run ∧ Server.stuck s = true := by
  decide +kernel

open SecsModel.Model.TcpStop in
/-- **regression witness, server, second window, before the repair**: `disable()` right after `enable()`, between the first test of the stop flag and the first `select`:
`select` on the closed socket raises, the exception is logged, `select_result` is unbound, the thread dies with `UnboundLocalError` -/
theorem server_disable_hang_first_select :
    ∃ s, Server.run false Server.St.init [.thr true, .thr true, .app, .app, .app, .thr false] = some s
      ∧ s.thr = .dead ∧ s.rcv = .off ∧ Server.stuck s = true := by
  decide +kernel

open SecsModel.Model.TcpStop in
/-- **regression witness, server, idle, before the repair** (no peer at all): `enable()`, the server thread waits in `select`; `disable()` sets the flag and closes the
listening socket; the `select` returns the closed socket as readable, `accept()` raises `EBADF`, the thread dies — the flag is never reset -/
theorem server_disable_hang_idle :
    ∃ s, Server.run false Server.St.init [.thr true, .thr true, .app, .app, .app, .thr true, .thr true] = some s
      ∧ s.thr = .dead ∧ s.rcv = .off ∧ Server.stuck s = true := by
  decide +kernel

open SecsModel.Model.TcpStop in
theorem server_stuck_step {a b : Server.St} {l : Server.Lbl} (ha : Server.stuck a = true) (hs : Server.step false a l = some b) :
    Server.stuck b = true := by
  obtain ⟨en, fl, so, se, sr, ap, th, rc⟩ := a
  simp only [Server.stuck, Bool.and_eq_true, decide_eq_true_eq, Bool.not_eq_true'] at ha
  obtain ⟨⟨⟨rfl, rfl⟩, h3⟩, rfl⟩ := ha
  cases th <;> cases h3
  cases l with
  | app => simp [Server.step, Server.stepV] at hs
  | thr ok => simp [Server.step, Server.stepV] at hs
  | rcv => cases rc <;> simp [Server.step, Server.stepV] at hs <;> simp [← hs, Server.stuck, Server.ThrPc.isAlive]
  | peerClose => simp [Server.step, Server.stepV] at hs; simp [← hs, Server.stuck, Server.ThrPc.isAlive]

open SecsModel.Model.TcpStop in
theorem server_stuck_forever (s s' : Server.St) (ls : List Server.Lbl) (h : Server.stuck s = true)
    (hr : Server.run false s ls = some s') : Server.stuck s' = true ∧ s'.app = .spin := by
  induction ls generalizing s with
  | nil =>
    cases hr
    exact ⟨h, by simp only [Server.stuck, Bool.and_eq_true, decide_eq_true_eq] at h; exact h.1.1.1⟩
  | cons l ls ih =>
    simp only [Server.run, Server.runV] at hr
    split at hr
    · exact ih _ (server_stuck_step h ‹_›) hr
    · cases hr

open SecsModel.Model.TcpStop in
/-- **regression witness (`proposals/C09-relisten-bind-race.md`, fixed 3d90218), about the variant that does NOT join (`stepV true false`): a peer that
connects and closes again while the `on_connected` listeners run leaves the passive endpoint deaf.**  Server thread: bind, loop, select,
accept, start the receiver, listeners; the peer closes; the receiver thread's close sequence and `_connection_closed` hook run while the
accepting thread is alive and holds the listening socket: the restarted server thread cannot bind (EADDRINUSE) and dies; the old one
finishes.  Final state: enabled, no server thread, no connection — and no step of any thread is possible: the endpoint never listens
again. -/
theorem early_close_leaves_endpoint_deaf :
    ∃ s, Server.runV true false Server.St.init
        [.thr true, .thr true, .thr true, .thr true, .thr true, .peerClose, .rcv, .thr true, .thr true] = some s
      ∧ Server.deaf s = true
      ∧ [Server.Lbl.thr true, .thr false, .rcv, .peerClose].all (fun l => (Server.stepV true false s l).isNone) = true := by
  decide +kernel

namespace Handshake
open SecsModel.Model.TcpStop

def cSucc (s : Client.St) : List Client.St := Client.labels.filterMap (Client.step true s)
def cReach : List Client.St := closure cSucc 64 [Client.St.init] [Client.St.init]
/-- the application thread is inside `disable()` and no thread can take a step -/
def cHung (s : Client.St) : Bool :=
  s.app != .returned && [Client.Lbl.app, .thr true, .thr false, .rcv].all (fun l => (Client.step true s l).isNone)

def sSucc (s : Server.St) : List Server.St := Server.labels.filterMap (Server.step true s)
def sReach : List Server.St := closure sSucc 64 [Server.St.init] [Server.St.init]
def sHung (s : Server.St) : Bool :=
  s.app != .returned && [Server.Lbl.app, .thr true, .thr false, .rcv].all (fun l => (Server.step true s l).isNone)

/-- ranks of the awaited threads: every step of the connect/server thread while `disable()` waits for it, and every step of the receiver
thread while `disconnect()` waits for it, decreases them -/
def cRank (s : Client.St) : Nat :=
  (match s.thr with | .start => 8 | .connect => 7 | .up => 6 | .listen => 3 | .idle _ => 1 | .dead => 0)
  + (match s.rcv with | .run => 2 | .closing => 1 | .off => 0)
def sRank (s : Server.St) : Nat :=
  (match s.thr with | .bind => 10 | .select => 9 | .accept => 7 | .up => 6 | .listen => 3 | .shutdown => 2 | .loop => 1 | .dead => 0)
  + (match s.rcv with | .run => 2 | .closing => 1 | .off => 0)

end Handshake

open SecsModel.Model.TcpStop Handshake in
/-- **`TcpClientConnection.disable()` returns** (under weak fairness): the listed states are closed under every step of every thread and of
the peer (so they contain every reachable state, whenever `disable()` is called — also inside the `on_connected` window), none of them is
hung (the application thread inside `disable()` with no thread able to move), and while `disable()` waits (`spin` for the connect thread,
`discWait` for the receiver thread) every step of the awaited thread decreases its rank. -/
theorem client_disable_returns :
    Client.St.init ∈ cReach
    ∧ (∀ s ∈ cReach, ∀ l ∈ Client.labels, ∀ s', Client.step true s l = some s' → s' ∈ cReach)
    ∧ (∀ s ∈ cReach, cHung s = false)
    ∧ (∀ s ∈ cReach, s.app = .spin → Client.step true s .app = none → ∀ ok s', Client.step true s (.thr ok) = some s' → cRank s' < cRank s)
    ∧ (∀ s ∈ cReach, s.app = .discWait → ∀ s', Client.step true s .rcv = some s' → cRank s' < cRank s) := by
  decide +kernel

open SecsModel.Model.TcpStop Handshake in
/-- what `server_disable_returns` and `early_close_listens_again` say of one enumerated state -/
structure ServerStateOk (s : Server.St) : Prop where
  closed : ∀ l ∈ Server.labels, ∀ s', Server.step true s l = some s' → s' ∈ sReach
  notHung : sHung s = false
  spinRank : s.app = .spin → Server.step true s .app = none → ∀ ok s', Server.step true s (.thr ok) = some s' → sRank s' < sRank s
  discWaitRank : s.app = .discWait → ∀ s', Server.step true s .rcv = some s' → sRank s' < sRank s
  notDeaf : Server.deaf s = false
  joinEnds : s.rcv = .closing → Server.step true s .rcv = none →
    (∃ ok, (Server.step true s (.thr ok)).isSome = true) ∧ ∀ ok s', Server.step true s (.thr ok) = some s' → sRank s' < sRank s

open SecsModel.Model.TcpStop Handshake in
instance (s : Server.St) : Decidable (ServerStateOk s) :=
  decidable_of_iff (_ ∧ _ ∧ _ ∧ _ ∧ _ ∧ _) ⟨fun ⟨a, b, c, d, e, f⟩ => ⟨a, b, c, d, e, f⟩, fun ⟨a, b, c, d, e, f⟩ => ⟨a, b, c, d, e, f⟩⟩

open SecsModel.Model.TcpStop Handshake in
/-- in one statement, so that the breadth-first closure `sReach` is evaluated once -/
theorem server_sweep : Server.St.init ∈ sReach ∧ ∀ s ∈ sReach, ServerStateOk s := by
  decide +kernel

open SecsModel.Model.TcpStop Handshake in
/-- **`TcpServerConnection.disable()` returns** (under weak fairness): same statement; the reachable states include `disable()` with no peer
(listening socket closed under `select`), inside the `on_connected` window and before the first `select`, and the peer closing at any
moment of an established connection (also inside the `on_connected` window) -/
theorem server_disable_returns :
    Server.St.init ∈ sReach
    ∧ (∀ s ∈ sReach, ∀ l ∈ Server.labels, ∀ s', Server.step true s l = some s' → s' ∈ sReach)
    ∧ (∀ s ∈ sReach, sHung s = false)
    ∧ (∀ s ∈ sReach, s.app = .spin → Server.step true s .app = none → ∀ ok s', Server.step true s (.thr ok) = some s' → sRank s' < sRank s)
    ∧ (∀ s ∈ sReach, s.app = .discWait → ∀ s', Server.step true s .rcv = some s' → sRank s' < sRank s) :=
  have ⟨hinit, hok⟩ := server_sweep
  ⟨hinit, fun s h => (hok s h).closed, fun s h => (hok s h).notHung, fun s h => (hok s h).spinRank, fun s h => (hok s h).discWaitRank⟩

/-- **The restart hook joins before it starts** (generated fact from `TcpServerConnection._connection_closed`: `self._server_thread.join()`
comes before `self.__start_server_thread()`): the premise under which `TcpStop.Server.step` (= `stepV _ true`) is the model of the code
that exists rather than the variant of `early_close_leaves_endpoint_deaf`. -/
theorem restart_joins_accepting_thread : Gen.HsmsGuards.serverRestartHook = ["join", "start"] := by decide +kernel

open SecsModel.Model.TcpStop Handshake in
/-- **The passive endpoint listens again, whenever the peer closes** (the code that exists: `_connection_closed` joins the accepting thread
before it restarts the listener, 3d90218).  The enumerated reachable states (`sReach`, closed under all steps by `server_disable_returns`)
include the peer closing at any moment of an established connection — also while the accepting thread still runs the `on_connected`
listeners.  In none of them is the endpoint deaf (enabled, no server thread, no connection); whenever the receiver thread waits in the
`join` (its step is blocked) every step of the accepting thread decreases its rank, so the join ends; and on the history of the regression
witness the listener is restarted. -/
theorem early_close_listens_again :
    (∀ s ∈ sReach, Server.deaf s = false)
    ∧ (∀ s ∈ sReach, s.rcv = .closing → Server.step true s .rcv = none →
        (∃ ok, (Server.step true s (.thr ok)).isSome = true) ∧ ∀ ok s', Server.step true s (.thr ok) = some s' → sRank s' < sRank s)
    ∧ (∃ s0 s1, Server.run true Server.St.init [.thr true, .thr true, .thr true, .thr true, .thr true, .peerClose] = some s0
        ∧ s0.thr = .listen ∧ Server.step true s0 .rcv = none
        ∧ Server.run true s0 [.thr true, .thr true, .rcv] = some s1 ∧ s1.thr = .bind ∧ s1.rcv = .off ∧ Server.deaf s1 = false) := by
  exact ⟨fun s h => (server_sweep.2 s h).notDeaf, fun s h => (server_sweep.2 s h).joinEnds,
    _, _, rfl, by decide +kernel, by decide +kernel, rfl, by decide +kernel⟩

end SecsModel.Props.C09
