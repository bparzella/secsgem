import SecsModel.Proofs.CodecRound
import SecsModel.Props.C03
import SecsModel.Proofs.FnCodecMatch
/-!
# C03 (part b) — the value round trip of every catalogued stream/function, and plain scalar values given to `Dynamic` items

`Model.Fn` (`Model/FnCodec.lean`) is `SecsStreamFunction.encode/decode` + `StreamsFunctions.decode` over the generated catalogue,
with the codec of `Model/Var.lean`; `structOf` derives the codec structure of a function from its generated SFDL text (through the
SFDL model and its shape) and the generated data item table.  Tied to the code by `tools/harness/c03_fn.py` (driver domain `fn`).
-/
-- this theorem holds the proof; `Props.C03b.function_roundtrip` below restates it under the property's namespace
namespace SecsModel.Proofs.FnCodec
open SecsModel SecsModel.Spec.E5 SecsModel.Model.Var SecsModel.Gen.Catalogue SecsModel.Model.Fn
  SecsModel.Proofs.CodecVarDec SecsModel.Proofs.CodecRound

theorem structOf_text {f : Fn} {s : Struct} (h : structOf f = some s) : ∃ t, f.dataFormat = some t ∧ structOfText t = some s := by
  simp only [structOf] at h
  cases hx : f.dataFormat with
  | none => simp [hx] at h
  | some t => exact ⟨t, rfl, by simpa [hx] using h⟩

theorem function_roundtrip (f : Fn) (hf : f ∈ py) (s : Struct) (hs : structOf f = some s) (v : Val) (ha : Accepted v) (hn : NoNaN v)
    (hc : Conforms s v) (bs : Bytes) (he : Model.Fn.encode f (some v) = .ok bs) :
    Model.Fn.decode py f.stream f.function bs = .ok (f, some (norm v)) := by
  obtain ⟨t, ht, hst⟩ := structOf_text hs
  have henc : Model.Var.encode v = .ok bs := by simpa [Model.Fn.encode, ht] using he
  have hr := roundtrip v s ha hn hc bs henc [] [] (by intro x hx; simp at hx)
  simp only [List.nil_append, List.append_nil, List.length_nil, Nat.zero_add] at hr
  simp only [Model.Fn.decode, Props.C03.lookup_total f hf, ht, hst, hr]

end SecsModel.Proofs.FnCodec

namespace SecsModel.Props.C03b
open SecsModel SecsModel.Spec.E5 SecsModel.Model.Var SecsModel.Gen.Catalogue SecsModel.Model.Fn
open SecsModel.Proofs.CodecVarDec SecsModel.Proofs.CodecRound SecsModel.Proofs.FnCodecMatch

/-- **Function round trip** (`C03_function_roundtrip`).  For every catalogued function and **every** value that conforms to its structure (open lists of
any length, every allowed alternative type of each Dynamic item, count limits) and that the item types accept (no NaN): the body
`cls(value).encode()` produces decodes — looked up only by the stream and function numbers — to the same function carrying the
value (F4 elements rounded to binary32, nothing else changed). -/
theorem function_roundtrip (f : Fn) (hf : f ∈ py) (s : Struct) (hs : structOf f = some s) (v : Val) (ha : Accepted v) (hn : NoNaN v)
    (hc : Conforms s v) (bs : Bytes) (he : Model.Fn.encode f (some v) = .ok bs) :
    Model.Fn.decode py f.stream f.function bs = .ok (f, some (norm v)) :=
  Proofs.FnCodec.function_roundtrip f hf s hs v ha hn hc bs he

/-- when all F4 elements are binary32 values the decoded value is the value itself -/
theorem function_roundtrip_exact (f : Fn) (hf : f ∈ py) (s : Struct) (hs : structOf f = some s) (v : Val) (ha : Accepted v) (hn : NoNaN v)
    (hx : v.Exact32) (hc : Conforms s v) (bs : Bytes) (he : Model.Fn.encode f (some v) = .ok bs) :
    Model.Fn.decode py f.stream f.function bs = .ok (f, some v) := by
  have := function_roundtrip f hf s hs v ha hn hc bs he
  rwa [norm_exact v hx] at this

/-- **Every function with a structure text has a codec structure** (kernel-evaluated over the generated table on every run):
the text parses, its shape has no broken array, every data item is in the data item table with a known type / type list. -/
theorem struct_defined (f : Fn) (hf : f ∈ py) (hd : f.dataFormat.isSome = true) : ∃ s, structOf f = some s :=
  Proofs.C03Tab.row_struct hf hd

/-- **Header-only functions**: the body is empty, any body is accepted, the class is found by its numbers. -/
theorem header_only (f : Fn) (hf : f ∈ py) (hd : f.dataFormat = none) (v : Option Val) (body : Bytes) :
    Model.Fn.encode f v = .ok [] ∧ Model.Fn.decode py f.stream f.function body = .ok (f, none) :=
  ⟨by simp only [Model.Fn.encode, hd], by simp only [Model.Fn.decode, C03.lookup_total f hf, hd]⟩

/-- a message whose numbers are not catalogued is refused -/
theorem unknown_function (s fn : Nat) (body : Bytes) (h : Model.Catalogue.function py s fn = .ok none) :
    Model.Fn.decode py s fn body = .error .valueError := by
  simp only [Model.Fn.decode, h]

/-- **`_match_type` returns a candidate that supports the value**, and is first-fit in its two passes: pass 1 takes the first
allowed type (declared order) of the value's own Python kind that supports it; pass 2 the first that supports it at all. -/
theorem matchType_first_fit (c : Int) (p : PyVal) :
    (∀ ts g, matchType ts c p = .found g →
      ∃ t, g = .leaf t ∧ .leaf t ∈ (if ts.isEmpty then defaultOrder else ts) ∧ supportsScalar t c p = some true)
    ∧ (∀ t pre post, prefersPy (.leaf t) p = true → supportsScalar t c p = some true → (∀ g ∈ pre, skipped1 c p g) →
        pass1 c p (pre ++ .leaf t :: post) = .found (.leaf t))
    ∧ (∀ t pre post, supportsScalar t c p = some true → (∀ g ∈ pre, ∃ t', g = .leaf t' ∧ supportsScalar t' c p = some false) →
        pass2 c p (pre ++ .leaf t :: post) = .found (.leaf t)) :=
  ⟨fun ts g h => matchType_found ts c p g h, fun t pre post hp hs h => pass1_first_fit c p t post hp hs pre h,
   fun t pre post hs h => pass2_first_fit c p t post hs pre h⟩

/-- **Plain scalar read-back** (`C03_plain_value_readback`, scalars).  A plain int, bool, float or str given to a `Dynamic` item (any type list, any count)
whose type search ends in a class of the value's own kind (int → U*/I*, bool → BOOLEAN, float → F4/F8, str → A/J) is stored and read
back by `get()` unchanged. -/
theorem plain_value_readback (ts : List Tag) (c : Int) (p : PyVal) (t : Ty) (hm : matchType ts c p = .found (.leaf t)) (hn : native t p) :
    setGet ts c p = .ok (t, p) :=
  Proofs.FnCodecMatch.plain_value_readback ts c p t hm hn

/-- S1F3 (an open array of SVID: U1…I8 or A), a two-element value with two alternative types -/
example : ∃ f ∈ py, f.stream = 1 ∧ f.function = 3 ∧ (structOf f).isSome = true
    ∧ Model.Fn.decode py 1 3 [0x01, 0x02, 0xA5, 0x01, 0x01, 0x41, 0x01, 0x7A] = .ok (f, some (.list [.item .u1 [1], .item .a [0x7A]]))
    ∧ Model.Fn.decode py 1 3 [0x01, 0x01, 0x91, 0x04, 0, 0, 0, 0] = .error .valueError := by
  refine ⟨⟨['S', 'e', 'c', 's', 'S', '0', '1', 'F', '0', '3'], 1, 3, false, true, true, true, false, some fmt_SecsS01F03⟩, ?_⟩
  decide +kernel

example : (py.filter (fun f => f.dataFormat.isSome)).length = 115 ∧ (py.filter (fun f => f.dataFormat.isNone)).length = 19 := by decide +kernel

/-- an int too large for every allowed integer type falls to a later type of another kind: it is NOT read back unchanged
(the value 300 given to a `[U1, A]` item comes back as the text "300") — why the read-back theorem asks for a class of the value's own kind -/
theorem witness_int_becomes_text : setGet [.leaf .u1, .leaf .a] (-1) (.int 300) = .ok (.a, .str [51, 48, 48]) := by rfl

/-- a scalar that no allowed type takes in pass 1 makes pass 2 construct `Array(count=…)`, which raises `TypeError` -/
theorem witness_array_in_pass2 : matchType [.arr, .leaf .u1] (-1) (.int 300) = .typeError := by decide +kernel

end SecsModel.Props.C03b
