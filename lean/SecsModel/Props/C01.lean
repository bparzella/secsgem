import SecsModel.Proofs.CodecRound
/-!
# C01 — SECS-II values round-trip and are encoded exactly as SEMI E5 prescribes (variables API)

`Gen.*` is regenerated from `/repo` on every check run; `Model.Var` is the hand model tied by `tools/harness/c01.py`.
-/
namespace SecsModel.Props.C01
open SecsModel SecsModel.Spec.E5 SecsModel.Model.Var
open SecsModel.Proofs.CodecHeader SecsModel.Proofs.CodecVar SecsModel.Proofs.CodecVarDec SecsModel.Proofs.CodecRound SecsModel.Proofs.CodecSpec

/-- **Item header, all lengths.**  The translated `Base.encode_item_header` is `format code << 2 | n` followed by the fewest
big-endian length bytes for every length `0 … 0xFFFFFF` (so also at 255/256, 65535/65536, 16777215) and a `ValueError` for
every other length (16777216, …, negative). -/
theorem header_exact (code : Nat) (hc : code < 64) :
    (∀ len : Nat, Gen.ItemHeaderVar.encode (code : Int) (len : Int) = Spec.E5.header code len)
    ∧ (∀ len : Int, len < 0 → Gen.ItemHeaderVar.encode (code : Int) len = .error .valueError) :=
  ⟨fun len => var_header_exact code len hc, fun len h => var_header_neg _ len h⟩

/-- the boundaries spelled out (what `Spec.E5.header` is there) -/
example : Spec.E5.header 8 255 = .ok [0x21, 0xFF] ∧ Spec.E5.header 8 256 = .ok [0x22, 0x01, 0x00]
    ∧ Spec.E5.header 8 65535 = .ok [0x22, 0xFF, 0xFF] ∧ Spec.E5.header 8 65536 = .ok [0x23, 0x01, 0x00, 0x00]
    ∧ Spec.E5.header 8 16777215 = .ok [0x23, 0xFF, 0xFF, 0xFF] ∧ Spec.E5.header 8 16777216 = .error .valueError := by decide

/-- **Type table.**  Format code, mnemonic, element width and value range of every generated variable class are those of E5
(float ranges as bit patterns of ∓FLT_MAX / ∓DBL_MAX); `Array` and `List` are the list format. -/
theorem types_match_E5 :
    Gen.VarTypes.table.tail.map rowProj = Spec.E5.typeTable
    ∧ rowProj Gen.VarTypes.cArray = ("L", 0, 0, 0, 0) ∧ Gen.VarTypes.cArray.format_code = Gen.VarTypes.cList.format_code :=
  ⟨by decide +kernel, by decide, row_list_code.1.trans row_list_code.2.symm⟩

/-- `struct.pack` with the struct code of each generated number class is the E5 element encoding -/
theorem struct_codes_match_E5 (t : Ty) (e : Int) (h : t.kind = .sint ∨ t.kind = .uint ∨ t.kind = .f32 ∨ t.kind = .f64) (hok : okElem t e = true) :
    pack (rowOf t).struct_code e = elemEnc t e := pack_eq t e h hok

/-- **JIS-8 table.**  The generated `jis8_decoding_map` is the JIS X 0201 map of the Spec and is injective on the 256 bytes,
and its inverse (`jis8_encoding_map`) is the Spec's `jisByte` for every code point. -/
theorem jis8_bijective :
    Gen.Jis8.table = (List.range 256).map jisChar
    ∧ (∀ a b, a < 256 → b < 256 → jisChar a = jisChar b → a = b)
    ∧ (∀ c : Int, jisEncode c = jisByte c) :=
  ⟨jis_table_eq, Proofs.CodecElem.jis_injective, jisEncode_eq⟩

/-- **Encode.**  For every value a variable type accepts (any nesting), `encode()` produces exactly the E5 byte string —
and fails exactly when E5 has no encoding (more than 0xFFFFFF body bytes / list elements). -/
theorem encode_exact (v : Val) (ha : Accepted v) : Model.Var.encode v = Spec.E5.encode v :=
  Proofs.CodecVar.encode_exact v ha

/-- **Round trip.**  For every accepted value without NaN, every structure it conforms to (typed leaf with its count limit,
`Dynamic`/`ANYVALUE`, `Array`, `List`, nested to any depth), any bytes before (`pre`) and after (`tail`) the item: decoding the
encoded bytes into a fresh object yields the value — an F4 element `x` as `widen (round32 x)`, nothing else changed — and returns
exactly the position after the encoded bytes. -/
theorem roundtrip (v : Val) (s : Struct) (ha : Accepted v) (hn : NoNaN v) (hs : Conforms s v) (bs : Bytes)
    (he : Model.Var.encode v = .ok bs) (pre tail : Bytes) (ht : AllBytes tail) :
    decodeAs s (pre ++ (bs ++ tail)) pre.length = .ok (norm v, pre.length + bs.length) :=
  Proofs.CodecRound.roundtrip v s ha hn hs bs he pre tail ht

/-- when every F4 element is representable in binary32 the decoded value is the value itself -/
theorem roundtrip_exact (v : Val) (s : Struct) (ha : Accepted v) (hn : NoNaN v) (hx : v.Exact32) (hs : Conforms s v) (bs : Bytes)
    (he : Model.Var.encode v = .ok bs) (pre tail : Bytes) (ht : AllBytes tail) :
    decodeAs s (pre ++ (bs ++ tail)) pre.length = .ok (v, pre.length + bs.length) := by
  have := roundtrip v s ha hn hs bs he pre tail ht
  rwa [norm_exact v hx] at this

/-- encoding the decoded value gives the same bytes again -/
theorem reencode_idempotent (v : Val) (ha : Accepted v) (hn : NoNaN v) : Spec.E5.encode (norm v) = Spec.E5.encode v :=
  encode_norm v ha hn

/-- **Every non-NaN double the F4 type accepts encodes, and its encoding decodes** ("an F4 accepted at construction that no longer decodes after
rounding to binary32" does not exist): no accepted F4 overflows binary32 on `encode`, and none is refused by the range check on `decode`.
`hc` is `countOk .f4 count 1`. -/
theorem f4_accepts_implies_decodes (e : Int) (count : Int) (ha : accElem .f4 e = true) (hn : nanElem .f4 e = false) (hc : ¬ (0 ≤ count ∧ count < 1)) :
    ∃ bs, Model.Var.encode (.item .f4 [e]) = .ok bs ∧ bs.length = 6
      ∧ decodeAs (.leaf .f4 count) bs 0 = .ok (.item .f4 [normElem .f4 e], 6) := by
  have hacc : Accepted (.item .f4 [e]) := by intro x hx; simp at hx; subst hx; exact ha
  have hnn : NoNaN (.item .f4 [e]) := by intro x hx; simp at hx; subst hx; exact hn
  obtain ⟨b, hb⟩ := elemEnc_ok .f4 e ha
  obtain ⟨hl, _, _⟩ := Proofs.CodecElem.elem_roundtrip .f4 e b hb
  have henc : Spec.E5.encode (.item .f4 [e]) = .ok ([0x91, 0x04] ++ b) := by
    simp only [Spec.E5.encode, encElems, hb, List.append_nil]
    have : b.length = 4 := hl
    rw [this]; rfl
  have hm : Model.Var.encode (.item .f4 [e]) = .ok ([0x91, 0x04] ++ b) := by rw [encode_exact _ hacc, henc]
  have hs : Conforms (.leaf .f4 count) (.item .f4 [e]) := ⟨rfl, by simpa [countOk, Ty.kind] using hc⟩
  have := roundtrip (.item .f4 [e]) (.leaf .f4 count) hacc hnn hs _ hm [] [] (by intro x hx; simp at hx)
  refine ⟨_, hm, by simp [hl, Ty.width], ?_⟩
  simpa [norm, hl, Ty.width] using this

/-- **`Dynamic.decode` table.**  Every E5 format except JIS-8 is dispatched to its own class, lists to `Array(ANYVALUE)`;
`ANYVALUE` allows all of them.  (JIS-8 has no entry: a `Dynamic` cannot decode a J item — modelled as the code behaves.) -/
theorem dynamic_table :
    (∀ t : Ty, t ≠ .j → dynLookup t.code = some (.leaf t) ∧ tagOk anyTags (.leaf t))
    ∧ dynLookup 0 = some .arr ∧ tagOk anyTags .arr ∧ dynLookup Ty.j.code = none :=
  ⟨fun t h => ⟨(any_leaf t h).2, (any_leaf t h).1⟩, any_arr.2, any_arr.1, by decide +kernel⟩

/-- a three-level nesting with a U8 maximum, an I8 minimum, F4 = 0.1 (not representable in binary32), FLT_MAX and text -/
def sample : Val :=
  .list [.item .u8 [18446744073709551615], .list [.item .i8 [-9223372036854775808], .list [.item .f4 [0x3FB999999999999A, 0x47EFFFFFE0000000]]],
         .item .a [72, 105, 255], .item .j [0xA5, 0xFF61], .item .bool [1, 0], .item .b []]

/- The four facts about `sample` are named because Props/C20d builds its end-to-end examples on them; each is followed by the non-vacuity
`example` it proves. -/
theorem sample_accepted : Accepted sample := by
  simp only [sample, Accepted, AcceptedList, List.mem_cons, List.not_mem_nil, or_false, forall_eq_or_imp, forall_eq, and_true]
  exact ⟨by decide, ⟨by decide, by decide, by decide⟩, ⟨by decide, by decide, by decide⟩, ⟨by decide +kernel, by decide +kernel⟩,
    ⟨by decide, by decide⟩, fun _ h => h.elim⟩

example : Accepted sample := sample_accepted

theorem sample_noNaN : NoNaN sample := by
  simp only [sample, NoNaN, NoNaNList, List.mem_cons, List.not_mem_nil, or_false, forall_eq_or_imp, forall_eq, and_true]
  exact ⟨by decide, ⟨by decide, by decide, by decide⟩, ⟨by decide, by decide, by decide⟩, ⟨by decide, by decide⟩,
    ⟨by decide, by decide⟩, fun _ h => h.elim⟩

example : NoNaN sample := sample_noNaN

theorem sample_conforms :
    Conforms (.record [.leaf .u8 1, .dyn [.arr] (-1), .leaf .a 3, .leaf .j (-1), .dyn [] 2, .leaf .b (-1)]) sample := by
  simp only [sample, Conforms, ConformsZip, NoJList, NoJ, List.length_cons, List.length_nil, and_true, true_and]
  decide

example : Conforms (.record [.leaf .u8 1, .dyn [.arr] (-1), .leaf .a 3, .leaf .j (-1), .dyn [] 2, .leaf .b (-1)]) sample := sample_conforms

theorem sample_encoded : Model.Var.encode sample = .ok [0x01, 0x06, 0xA1, 0x08, 0xFF, 0xFF, 0xFF, 0xFF, 0xFF, 0xFF, 0xFF, 0xFF, 0x01, 0x02, 0x61, 0x08, 0x80, 0, 0, 0, 0, 0, 0, 0,
    0x01, 0x01, 0x91, 0x08, 0x3D, 0xCC, 0xCC, 0xCD, 0x7F, 0x7F, 0xFF, 0xFF, 0x41, 0x03, 72, 105, 255, 0x45, 0x02, 0x5C, 0xA1, 0x25, 0x02, 1, 0, 0x21, 0x00] := by
  decide +kernel

example : Model.Var.encode sample = .ok [0x01, 0x06, 0xA1, 0x08, 0xFF, 0xFF, 0xFF, 0xFF, 0xFF, 0xFF, 0xFF, 0xFF, 0x01, 0x02, 0x61, 0x08, 0x80, 0, 0, 0, 0, 0, 0, 0,
    0x01, 0x01, 0x91, 0x08, 0x3D, 0xCC, 0xCC, 0xCD, 0x7F, 0x7F, 0xFF, 0xFF, 0x41, 0x03, 72, 105, 255, 0x45, 0x02, 0x5C, 0xA1, 0x25, 0x02, 1, 0, 0x21, 0x00] :=
  sample_encoded

/-- a 256-byte binary item needs two length bytes -/
example : (Model.Var.encode (.item .b (List.replicate 256 7))).map (·.take 4) = .ok [0x22, 0x01, 0x00, 7] := by decide +kernel

/-- an F4 that is not binary32-representable comes back rounded, not equal -/
example : norm (.item .f4 [0x3FB999999999999A]) = .item .f4 [0x3FB99999A0000000] := by rfl

end SecsModel.Props.C01
