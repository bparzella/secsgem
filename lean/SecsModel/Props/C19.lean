import SecsModel.Proofs.SfdlTok
import SecsModel.Proofs.SfdlShape
import SecsModel.Proofs.SfdlReject
/-!
# C19 — function structure definitions (SFDL) are read exactly as documented

`Spec.Sfdl` is the documentation (`docs/firststeps/sfdl.md`): the grammar as a tree `Def`, every text of a tree (`render d ly`,
one per layout of blanks, line breaks and comments) and the documented shape `shape d`.  `Model.Sfdl` is the code
(`sfdl_tokenizer.py`, `variables/functions.py`, `List._generate`, `Array.__init__`).

Partial: the shape theorem `shape_partial` covers list names only in the placements of `namesAsDocumented`;
`witness_named_single_member` (`c19-named-single-member-list`) shows a documented placement outside them where the code builds
another shape.  The table obligations `gen_chars`, `class_facts`, `gen_keys` are in `Proofs/SfdlTables.lean`.
-/
namespace SecsModel.Props.C19
open SecsModel SecsModel.Spec.Sfdl SecsModel.Model.Sfdl SecsModel.Proofs.Sfdl

/-- **Comments and arbitrary whitespace.**  Whatever stands in the gaps — blanks, tabs, CR, LF, comments (also directly after
a word, also one running to the end of the text) — the character loop of the tokenizer yields exactly the tokens of the
definition.  All trees (any depth, width, names), all layouts. -/
theorem tokenize_render (d : Def) (ly : Layout) (hw : wordsOk d = true) : split (render d ly) = tokensOf d := by
  unfold split render
  rw [scan_gap, scan_def d ly.gap _ hw, scan_gap]
  cases ly.eof with
  | none => simp [scan_nil, flush_nil]
  | some body =>
    simp only
    rw [scan_cons_text, if_pos rfl, ← List.append_nil (List.filter _ body), scan_in_comment _ (filter_noEol body), scan_nil]
    simp [flush_nil]

/-- the typed tokens: accepted by `_process_tokens` when the item names are catalogued data items -/
theorem tokenize_render_typed (d : Def) (ly : Layout) (hw : wordsOk d = true) (hk : allKnown d = true) :
    tokenize (render d ly) = .ok (toks d) := by
  rw [tokenize, tokenize_render d ly hw, validate_tokensOf d hw hk]

/-- **Documented shape** (all the property asks, on the part of the grammar where the code as it is delivers it).  For every
definition tree over catalogued item names with non-empty lists, pairwise different member keys and list names only in the two
placements of `namesAsDocumented` (one documented, one used by the function catalogue), under every layout,
`functions.generate(text)` succeeds and the variable tree has the documented shape: one member ⇒ open array, several members ⇒
record keyed by the documented keys, in order. -/
theorem shape_partial (d : Def) (ly : Layout) (hw : wordsOk d = true) (hk : allKnown d = true) (hne : nonEmptyLists d = true)
    (hn : namesAsDocumented d = true) (hd : keysDistinct d = true) :
    ∃ o, parse (render d ly) = .ok o ∧ erase o = some (shape d) := by
  obtain ⟨o, ho, he, _⟩ := gen_def d hw hne hn hd
  refine ⟨o, ?_, he⟩
  have hg := genFrom_toks d (2 * (toks d).length + 2) [] none hw hk hne
    (by rw [← List.length_map, toks_values]; have := need_le d; omega)
  rw [List.append_nil] at hg
  simp only [parse, tokenize_render_typed d ly hw hk, hg, ho]

theorem parse_error_of_validate {text : List Char} {e : Err} (h : validate (split text) = .error e) : parse text = .error e := by
  simp [parse, tokenize, h]

theorem parse_rejects {text : List Char} {es : List Name} (hs : split text = es) (h : ∃ e, validate es = .error e) :
    ∃ e, parse text = .error e :=
  h.imp fun _ he => parse_error_of_validate (hs ▸ he)

/-- **Unknown data item name.**  A definition that uses, anywhere, an item name that is not an attribute of the `data_items`
module (and is not the list tag `L`) is rejected with an error under every layout, whatever else it contains. -/
theorem reject_unknown_item (d : Def) (ly : Layout) (hw : wordsOk d = true) (hu : hasUnknown d = true) :
    ∃ e, parse (render d ly) = .error e :=
  parse_rejects (tokenize_render d ly hw) (validate_unknown d hw hu)

/-- **Truncated definition.**  A text whose elements are a proper prefix of a definition's tokens is rejected. -/
theorem reject_truncated (d : Def) (hw : wordsOk d = true) (p s : List Name) (h : tokensOf d = p ++ s) (hs : s ≠ [])
    (text : List Char) (ht : split text = p) : ∃ e, parse text = .error e :=
  parse_rejects ht (validate_truncated d hw p s h hs)

/-- **Missing closing bracket.**  A text whose elements are a definition's tokens with one `>` deleted — any one — is rejected. -/
theorem reject_missing_close (d : Def) (hw : wordsOk d = true) (t : List Name) (ht : t ∈ dels d)
    (text : List Char) (hs : split text = t) : ∃ e, parse text = .error e :=
  parse_rejects hs (validate_missing_close d hw t ht)

/-- the general criterion behind both: if every non-empty prefix of the elements has more `<` than `>`, the text is rejected -/
theorem reject_open_brackets (text : List Char) (m : Nat) (h : walk 0 (split text) = some m) : ∃ e, parse text = .error e :=
  parse_rejects rfl (validate_open (split text) m h)

def blanks : Layout := ⟨fun _ _ => [.ws .space], [], [], none⟩

/-- the documentation's second S2F23 example without its members `DSPER`, `TOTSMP`, `REPGSZ`: `< L < TRID > < L SVIDS < SVID > > >` -/
def s2f23Named : Def :=
  .list none [.item ['T', 'R', 'I', 'D'], .list (some ['S', 'V', 'I', 'D', 'S']) [.item ['S', 'V', 'I', 'D']]]

/-- **Counterexample (the code as it is, `c19-named-single-member-list`).**  The documented named open list satisfies every
hypothesis of `shape_partial` except the name placement, the code accepts it, and the shape it builds is a one-field record
where the documentation promises an open array: `shape_partial` cannot be extended to it. -/
theorem witness_named_single_member :
    wordsOk s2f23Named = true ∧ allKnown s2f23Named = true ∧ nonEmptyLists s2f23Named = true ∧ keysDistinct s2f23Named = true
    ∧ namesAsDocumented s2f23Named = false
    ∧ (parse (render s2f23Named blanks)).toOption.bind erase
        = some (.record [(['T', 'R', 'I', 'D'], .item ['T', 'R', 'I', 'D']),
                    (['S', 'V', 'I', 'D', 'S'], .record [(['S', 'V', 'I', 'D'], .item ['S', 'V', 'I', 'D'])])])
    ∧ shape s2f23Named = .record [(['T', 'R', 'I', 'D'], .item ['T', 'R', 'I', 'D']),
                    (['S', 'V', 'I', 'D', 'S'], .array (.item ['S', 'V', 'I', 'D']))] := by
  decide +kernel

/-- S2F33 as documented: `< L < DATAID > < L REPORTS < L < RPTID > < L < VID > > > > >` -/
def s2f33 : Def :=
  .list none [.item ['D', 'A', 'T', 'A', 'I', 'D'],
    .list (some ['R', 'E', 'P', 'O', 'R', 'T', 'S']) [.list none [.item ['R', 'P', 'T', 'I', 'D'], .list none [.item ['V', 'I', 'D']]]]]

/-- non-vacuity of `shape_partial`: the documented S2F33 definition (nested, named, record and arrays) meets all hypotheses -/
example : wordsOk s2f33 = true ∧ allKnown s2f33 = true ∧ nonEmptyLists s2f33 = true ∧ namesAsDocumented s2f33 = true
    ∧ keysDistinct s2f33 = true := by decide +kernel

/-- non-vacuity of the rejection theorems: an unknown name, four ways to lose one closing bracket -/
example : hasUnknown (.list none [.item ['N', 'O', 'P', 'E']]) = true ∧ (dels s2f23Named).length = 4 := by decide +kernel

end SecsModel.Props.C19
