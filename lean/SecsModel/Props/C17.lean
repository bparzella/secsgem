import SecsModel.Proofs.SecsILineFacts
import SecsModel.Proofs.SecsILineMsg
import SecsModel.Proofs.SecsILineBound
import SecsModel.Gen.BlockSend
/-!
# C17 — SECS-I line protocol delivers accepted messages intact, once; NAKs bad blocks

`Model.SecsILine.sys aIsHost encs fault`: endpoint `a` sends the encoded blocks `encs` with one `send_message` call, endpoint `b` only
receives ("one side transmits at a time"); `aIsHost` picks the direction.  A **schedule** interleaves the two protocol threads, the
application thread and the deliveries of arbitrary non-empty chunks of the two byte channels — so "for all schedules" is "for all
chunkings and all thread interleavings".  All statements below are for **every** schedule, **every** number of blocks (the `_message` forms: up to the 32767 a block
number can count) and **every**
well-framed block (`Framed enc blk`: length byte `l`, `l + 2` further bytes, `Block.decode enc = blk` — what C16's block round-trip
gives for `Block.encode`).

Not claimed: T1–T4 timeouts and retries (not in the code), contention (both sides sending).
-/
namespace SecsModel.Props.C17
open SecsModel SecsModel.Model.SecsI SecsModel.Model.SecsILine SecsModel.Proofs.SecsILine SecsModel.Proofs.SecsIHdr

-- the `decide +kernel` examples at the end of the file compare `Except` values
deriving instance DecidableEq for Except

/-- a real 13-byte block encoding (S1F1 W, no data) -/
def enc1bytes : Bytes := [10, 0, 1, 129, 1, 128, 1, 0, 0, 0, 7, 1, 11]

/-- generated handshake bytes are the SEMI E4 values (ENQ 0x05, EOT 0x04, ACK 0x06, NAK 0x15) -/
theorem handshake_bytes : (ENQ : Nat) = 5 ∧ (EOT : Nat) = 4 ∧ (ACK : Nat) = 6 ∧ (NAK : Nat) = 21 := by decide

/-- **The application thread of the model is the code's `send_message`** (facts regenerated from the source on every run): per block it
queues a `BlockSendInfo`, waits on it *without a timeout*, gets `True` exactly for `SENT_OK` (`resolve(True)`), stops with `False`
otherwise and returns `True` after the last block — `Model.SecsILine.appStep`.  A bounded wait, or a result test that lets the initial
`NOT_SENT` state count as success, re-opens this obligation (and with it `delivery` / `nak`, which are about `appStep`). -/
theorem send_message_waits :
    Gen.BlockSend.waitUnbounded = true ∧ Gen.BlockSend.waitReturnsSentOk = true ∧ Gen.BlockSend.resolveMapsBool = true
      ∧ Gen.BlockSend.sendWaitsEveryBlock = true := ⟨rfl, rfl, rfl, rfl⟩

/-- whatever the chunking and the thread interleaving, the transfer is in one of the stages of `Proofs.SecsILine.Stage` -/
theorem reach (ctx : Ctx) (hfr : ∀ p ∈ ctx.pairs, Framed p.1 p.2) (hbad : BadOK ctx) (aIsHost : Bool)
    (sched : List Label) (s : State) (hr : (sys aIsHost (ctx.pairs.map (·.1)) ctx.fault).run sched = some s) : Inv ctx s :=
  Sys.inv_of_step (sys aIsHost (ctx.pairs.map (·.1)) ctx.fault) (Inv ctx) (inv_init ctx aIsHost)
    (inv_step ctx hfr hbad) sched s hr

/-- number of scheduler steps (thread steps, application steps, chunk deliveries) a transfer of `encs` can take at most -/
def stepBound (encs : List Bytes) : Nat := 1 + wTodo encs

example : stepBound [enc1bytes, enc1bytes] = 1 + 2 * (40 * 13 + 95) := by decide

/-- **Bounded runs**: every schedule is at most `stepBound` long (each enabled step lowers the ranking function) -/
theorem bounded (ctx : Ctx) (hfr : ∀ p ∈ ctx.pairs, Framed p.1 p.2) (hbad : BadOK ctx) (aIsHost : Bool)
    (sched : List Label) (s : State) (hr : (sys aIsHost (ctx.pairs.map (·.1)) ctx.fault).run sched = some s) :
    sched.length + measure s ≤ stepBound (ctx.pairs.map (·.1)) := by
  have h := Sys.bound_of_measure (sys aIsHost (ctx.pairs.map (·.1)) ctx.fault) (Inv ctx) measure (inv_init ctx aIsHost)
    (fun s l s' hi hs => ⟨inv_step ctx hfr hbad s l s' hi hs, measure_step ctx s l s' hi hs⟩) sched s hr
  have h0 : measure (sys aIsHost (ctx.pairs.map (·.1)) ctx.fault).init = stepBound (ctx.pairs.map (·.1)) := measure_init _ _ _
  rwa [h0] at h

/-- what `delivery` and `nak` say, for any context: they are its two instances -/
theorem transfer (ctx : Ctx) (hfr : ∀ p ∈ ctx.pairs, Framed p.1 p.2) (hbad : BadOK ctx) (aIsHost : Bool)
    (sched : List Label) (s : State) (hr : (sys aIsHost (ctx.pairs.map (·.1)) ctx.fault).run sched = some s) :
    (∃ m, s.b.delivered = (ctx.pairs.map (·.2)).take m ∧ ∀ j t v, ctx.bad = some (j, t, v) → m ≤ j)
    ∧ (∀ ok, s.a.app = .fin ok →
        ok = ctx.expectOutcome ∧ s.b.delivered = ctx.expectDelivered ∧ s.log = ctx.expectLog
          ∧ s.ab = [] ∧ s.ba = [] ∧ s.a.rxbuf = [] ∧ s.b.rxbuf = [])
    ∧ ((∀ ok, s.a.app ≠ .fin ok) → ∃ l s', step s l = some s')
    ∧ sched.length ≤ stepBound (ctx.pairs.map (·.1)) :=
  have hinv : Inv ctx s := reach ctx hfr hbad aIsHost sched s hr
  ⟨inv_delivered_prefix ctx s hinv, fun ok => inv_complete ctx hbad s ok hinv, inv_progress ctx hfr hbad s hinv,
    Nat.le_trans (Nat.le_add_right _ _) (bounded ctx hfr hbad aIsHost sched s hr)⟩

theorem returned_of_stuck {s : State} (hprog : (∀ ok, s.a.app ≠ .fin ok) → ∃ l s', step s l = some s') (hmax : ∀ l, step s l = none) :
    ∃ ok, s.a.app = .fin ok :=
  Classical.byContradiction fun hn =>
    have ⟨l, _, hl⟩ := hprog fun ok h => hn ⟨ok, h⟩
    nomatch (hmax l).symm.trans hl

/-- **Delivery.**  Perfect line, any direction, any message (`pairs` = its blocks with their encodings), any schedule:
* the peer has received an initial part of the sender's blocks, in order, nothing else (never a duplicate, never out of order);
* when `send_message` has returned it returned `True`, the peer has received exactly the sender's blocks, the line transcript is
  exactly `(ENQ, EOT, block, ACK)*` — each block announced by ENQ, sent only after EOT, acknowledged by ACK — and no byte is left over;
* as long as `send_message` has not returned, something can move (no wedged state) — and every step that can be taken lowers the
  ranking function, so the schedule is at most `stepBound` long: **the call returns within `stepBound` steps** of any scheduler that
  keeps firing enabled steps. -/
theorem delivery (pairs : List (Bytes × Block)) (hfr : ∀ p ∈ pairs, Framed p.1 p.2) (aIsHost : Bool)
    (sched : List Label) (s : State) (hr : (sys aIsHost (pairs.map (·.1))).run sched = some s) :
    (∃ m, s.b.delivered = (pairs.map (·.2)).take m)
    ∧ (∀ ok, s.a.app = .fin ok →
        ok = true ∧ s.b.delivered = pairs.map (·.2) ∧ s.log = transcript (pairs.map (·.1))
          ∧ s.ab = [] ∧ s.ba = [] ∧ s.a.rxbuf = [] ∧ s.b.rxbuf = [])
    ∧ ((∀ ok, s.a.app ≠ .fin ok) → ∃ l s', step s l = some s')
    ∧ sched.length ≤ stepBound (pairs.map (·.1)) := by
  let ctx : Ctx := ⟨pairs, none⟩
  have hbad : BadOK ctx := fun _ _ _ h => nomatch h
  -- `hr` is a run of `sys aIsHost _ ctx.fault`: `ctx.fault` is `none`, the default of `sys`'s third argument
  obtain ⟨⟨m, hprefix, _⟩, hfin, hprogress, hbound⟩ := transfer ctx hfr hbad aIsHost sched s hr
  refine ⟨⟨m, hprefix⟩, fun ok hok => ?_, hprogress, hbound⟩
  simpa only [Ctx.expectOutcome, Ctx.expectDelivered, Ctx.expectLog, ctx, Option.isNone_none] using hfin ok hok

/-- **The call returns.**  Every run that cannot be continued (no thread can move, no byte is left to deliver) has `send_message`
returned `True` with exact delivery — and is at most `stepBound` steps long.  Together with `delivery` (every enabled step is allowed
at any time): whatever the scheduler does, after at most `stepBound` steps the call has returned. -/
theorem delivery_returns (pairs : List (Bytes × Block)) (hfr : ∀ p ∈ pairs, Framed p.1 p.2) (aIsHost : Bool)
    (sched : List Label) (s : State) (hr : (sys aIsHost (pairs.map (·.1))).run sched = some s) (hmax : ∀ l, step s l = none) :
    s.a.app = .fin true ∧ s.b.delivered = pairs.map (·.2) ∧ s.log = transcript (pairs.map (·.1))
      ∧ sched.length ≤ stepBound (pairs.map (·.1)) := by
  obtain ⟨_, d2, d3, d4⟩ := delivery pairs hfr aIsHost sched s hr
  obtain ⟨ok, hok⟩ := returned_of_stuck d3 hmax
  obtain ⟨rfl, a2, a3, _⟩ := d2 ok hok
  exact ⟨hok, a2, a3, d4⟩

/-- **Chunking is irrelevant.**  Two runs of the same transfer under *any two* schedules (chunkings, interleavings) that both let
`send_message` return agree on its result, on what the peer received and on the complete line transcript. -/
theorem chunking_irrelevant (pairs : List (Bytes × Block)) (hfr : ∀ p ∈ pairs, Framed p.1 p.2) (aIsHost : Bool)
    (sched₁ sched₂ : List Label) (s₁ s₂ : State) (ok₁ ok₂ : Bool)
    (h₁ : (sys aIsHost (pairs.map (·.1))).run sched₁ = some s₁) (h₂ : (sys aIsHost (pairs.map (·.1))).run sched₂ = some s₂)
    (f₁ : s₁.a.app = .fin ok₁) (f₂ : s₂.a.app = .fin ok₂) :
    ok₁ = ok₂ ∧ s₁.b.delivered = s₂.b.delivered ∧ s₁.log = s₂.log := by
  obtain ⟨_, fin₁, _, _⟩ := delivery pairs hfr aIsHost sched₁ s₁ h₁
  obtain ⟨_, fin₂, _, _⟩ := delivery pairs hfr aIsHost sched₂ s₂ h₂
  obtain ⟨a1, a2, a3, _⟩ := fin₁ ok₁ f₁
  obtain ⟨b1, b2, b3, _⟩ := fin₂ ok₂ f₂
  exact ⟨a1.trans b1.symm, a2.trans b2.symm, a3.trans b3.symm⟩

/-- the hypothesis of `nak` about the altered block: `Block.decode` answers `None` (checksum mismatch, no exception).  A hypothesis, not
the theorem `Props.C16.corruption_rejected`, and stronger than that theorem's conclusion, which allows an exception; `nak_message`
discharges it with `Proofs.SecsI.decode_set`. -/
def C16.corruption_rejected (enc : Bytes) (t v : Nat) : Prop := Block.decode (enc.set t v) = .ok none

/-- **NAK.**  Block `j` arrives with byte `t ≥ 1` (header, data or checksum — not the length byte) replaced by `v`, and `Block.decode` answers
`None` for it (`C16.corruption_rejected` above).  Then for every schedule:
* the peer has received an initial part of the blocks *before* `j` — block `j` is never delivered, nor anything after it;
* when `send_message` has returned it returned `False`, the peer has received exactly the blocks before `j`, and the transcript is
  `(ENQ, EOT, block, ACK)^j, ENQ, EOT, blockⱼ, NAK`;
* no wedged state before that, and the schedule is at most `stepBound` long: NAK is sent and the call returns `False` within
  `stepBound` steps of any scheduler that keeps firing enabled steps. -/
theorem nak (pairs : List (Bytes × Block)) (hfr : ∀ p ∈ pairs, Framed p.1 p.2) (aIsHost : Bool)
    (j t v : Nat) (enc : Bytes) (blk : Block) (hj : pairs[j]? = some (enc, blk)) (ht1 : 1 ≤ t) (ht2 : t < enc.length)
    (hrej : C16.corruption_rejected enc t v)
    (sched : List Label) (s : State) (hr : (sys aIsHost (pairs.map (·.1)) (some (2 * j + 1, t, v))).run sched = some s) :
    (∃ m, m ≤ j ∧ s.b.delivered = (pairs.map (·.2)).take m)
    ∧ (∀ ok, s.a.app = .fin ok →
        ok = false ∧ s.b.delivered = (pairs.take j).map (·.2)
          ∧ s.log = transcript ((pairs.take j).map (·.1)) ++ [(true, [ENQ]), (false, [EOT]), (true, enc), (false, [NAK])]
          ∧ s.ab = [] ∧ s.ba = [] ∧ s.a.rxbuf = [] ∧ s.b.rxbuf = [])
    ∧ ((∀ ok, s.a.app ≠ .fin ok) → ∃ l s', step s l = some s')
    ∧ sched.length ≤ stepBound (pairs.map (·.1)) := by
  have hbad : BadOK ⟨pairs, some (j, t, v)⟩ := by
    rintro _ _ _ ⟨⟩; exact ⟨enc, blk, hj, ht1, ht2, hrej⟩
  obtain ⟨⟨m, hm, hle⟩, h2, h3, h4⟩ := transfer ⟨pairs, some (j, t, v)⟩ hfr hbad aIsHost sched s hr
  refine ⟨⟨m, hle j t v rfl, hm⟩, ?_, h3, h4⟩
  -- `expectLog` looks the faulty block up: it is `enc`
  have hlog : (⟨pairs, some (j, t, v)⟩ : Ctx).expectLog = transcript ((pairs.take j).map (·.1)) ++ cycle enc false := by
    simp only [Ctx.expectLog, hj]
  rw [hlog] at h2
  exact h2

/-- **NAK happens and the call returns `False`**: every run that cannot be continued has sent NAK for block `j`, delivered only the
blocks before it and returned `False`, within `stepBound` steps. -/
theorem nak_returns (pairs : List (Bytes × Block)) (hfr : ∀ p ∈ pairs, Framed p.1 p.2) (aIsHost : Bool)
    (j t v : Nat) (enc : Bytes) (blk : Block) (hj : pairs[j]? = some (enc, blk)) (ht1 : 1 ≤ t) (ht2 : t < enc.length)
    (hrej : C16.corruption_rejected enc t v)
    (sched : List Label) (s : State) (hr : (sys aIsHost (pairs.map (·.1)) (some (2 * j + 1, t, v))).run sched = some s)
    (hmax : ∀ l, step s l = none) :
    s.a.app = .fin false ∧ s.b.delivered = (pairs.take j).map (·.2)
      ∧ s.log = transcript ((pairs.take j).map (·.1)) ++ [(true, [ENQ]), (false, [EOT]), (true, enc), (false, [NAK])]
      ∧ sched.length ≤ stepBound (pairs.map (·.1)) := by
  obtain ⟨_, d2, d3, d4⟩ := nak pairs hfr aIsHost j t v enc blk hj ht1 ht2 hrej sched s hr
  obtain ⟨ok, hok⟩ := returned_of_stuck d3 hmax
  obtain ⟨rfl, a2, a3, _⟩ := d2 ok hok
  exact ⟨hok, a2, a3, d4⟩

/-- **Delivery of a message.**  Any header in range, any body (of at most 32767 blocks), either direction: there are encodings `encs`
of the blocks of `split h body` (C16: `Block.encode` succeeds on each) such that for every schedule of the transfer
* the peer holds an initial part of `split h body`;
* when `send_message` has returned: it returned `True`, the peer holds exactly `split h body` — whose data concatenates to `body` and
  whose headers are `h`'s (`Props.C16.split_correct`) — and the transcript is `(ENQ, EOT, encᵢ, ACK)*`;
* no wedged state before that. -/
theorem delivery_message (h : Header) (body : Bytes) (hr : InRange h) (abody : AllBytes body)
    (hcount : (split h body).length ≤ 32767) (aIsHost : Bool) :
    ∃ pairs : List (Bytes × Block), pairs.map (·.2) = split h body ∧ (∀ p ∈ pairs, Block.encode p.2 = .ok p.1) ∧
      ∀ (sched : List Label) (s : State), (sys aIsHost (pairs.map (·.1))).run sched = some s →
        (∃ m, s.b.delivered = (split h body).take m)
        ∧ (∀ ok, s.a.app = .fin ok →
            ok = true ∧ s.b.delivered = split h body ∧ Message.data s.b.delivered = body ∧ s.log = transcript (pairs.map (·.1)))
        ∧ ((∀ ok, s.a.app ≠ .fin ok) → ∃ l s', step s l = some s')
        ∧ sched.length ≤ stepBound (pairs.map (·.1)) := by
  obtain ⟨pairs, hp, hall⟩ := message_pairs h body hr abody hcount
  refine ⟨pairs, hp, fun p hpm => (hall p hpm).encode, ?_⟩
  intro sched s hrun
  obtain ⟨d1, d2, d3, d4⟩ := delivery pairs (fun p hpm => (hall p hpm).framed) aIsHost sched s hrun
  rw [hp] at d1 d2
  refine ⟨d1, ?_, d3, d4⟩
  intro ok hfin
  obtain ⟨a1, a2, a3, _⟩ := d2 ok hfin
  refine ⟨a1, a2, ?_, a3⟩
  rw [a2]; exact (Props.C16.split_correct h body).1

/-- **NAK for a message.**  As `delivery_message`, but byte `t ≥ 1` of block `j` arrives as a different byte value `v`: block `j` is never
delivered; when `send_message` has returned it returned `False` and the transcript ends `ENQ, EOT, encⱼ, NAK`.  No hypothesis about
`Block.decode` is left: `Proofs.SecsI.decode_set` supplies it. -/
theorem nak_message (h : Header) (body : Bytes) (hr : InRange h) (abody : AllBytes body)
    (hcount : (split h body).length ≤ 32767) (aIsHost : Bool) :
    ∃ pairs : List (Bytes × Block), pairs.map (·.2) = split h body ∧ (∀ p ∈ pairs, Block.encode p.2 = .ok p.1) ∧
      ∀ (j t v : Nat) (enc : Bytes) (blk : Block), pairs[j]? = some (enc, blk) → 1 ≤ t → t < enc.length → v < 256 → enc[t]? ≠ some v →
      ∀ (sched : List Label) (s : State), (sys aIsHost (pairs.map (·.1)) (some (2 * j + 1, t, v))).run sched = some s →
        (∃ m, m ≤ j ∧ s.b.delivered = (split h body).take m)
        ∧ (∀ ok, s.a.app = .fin ok →
            ok = false ∧ s.b.delivered = (split h body).take j
              ∧ s.log = transcript ((pairs.take j).map (·.1)) ++ [(true, [ENQ]), (false, [EOT]), (true, enc), (false, [NAK])])
        ∧ ((∀ ok, s.a.app ≠ .fin ok) → ∃ l s', step s l = some s')
        ∧ sched.length ≤ stepBound (pairs.map (·.1)) := by
  obtain ⟨pairs, hp, hall⟩ := message_pairs h body hr abody hcount
  refine ⟨pairs, hp, fun p hpm => (hall p hpm).encode, ?_⟩
  intro j t v enc blk hj ht1 ht2 hv hne sched s hrun
  have hrej : C16.corruption_rejected enc t v := (hall (enc, blk) (List.mem_of_getElem? hj)).rejects t v ht1 ht2 hv hne
  obtain ⟨d1, d2, d3, d4⟩ := nak pairs (fun p hpm => (hall p hpm).framed) aIsHost j t v enc blk hj ht1 ht2 hrej sched s hrun
  rw [hp] at d1
  refine ⟨d1, ?_, d3, d4⟩
  intro ok hfin
  obtain ⟨a1, a2, a3, _⟩ := d2 ok hfin
  refine ⟨a1, ?_, a3⟩
  rw [a2, ← hp, List.map_take]

/-- two real encodings (as produced by `Block.encode`): S1F1 W, block 1 of 1, no data; and a block with two data bytes -/
def enc1 : Bytes := enc1bytes
def blk1 : Block := ⟨⟨7, 1, 1, 1, 1, false, true, true⟩, []⟩
def enc2 : Bytes := [12, 0, 1, 129, 1, 128, 2, 0, 0, 0, 7, 65, 66, 1, 143]
def blk2 : Block := ⟨⟨7, 1, 1, 1, 2, false, true, true⟩, [65, 66]⟩

example : Block.encode blk1 = .ok enc1 ∧ Block.encode blk2 = .ok enc2 := by decide +kernel
theorem framed1 : Framed enc1 blk1 := ⟨10, _, rfl, rfl, by decide +kernel⟩
theorem framed2 : Framed enc2 blk2 := ⟨12, _, rfl, rfl, by decide +kernel⟩
/-- the hypothesis of `nak` is satisfiable: a data byte of `enc2` altered -/
example : C16.corruption_rejected enc2 11 66 := by unfold C16.corruption_rejected; decide +kernel

/-- the hypotheses of `delivery_message` / `nak_message` are satisfiable: a 300-byte body is two blocks -/
example : InRange ⟨7, 1, 1, 1, 0, false, true, false⟩ ∧ (split ⟨7, 1, 1, 1, 0, false, true, false⟩ (List.replicate 300 65)).length = 2 := by
  decide +kernel

/-- a complete concrete run, host sends one block, the line delivers it in chunks of 5, 5 and 3 bytes -/
example : ((sys true [enc1]).run [.app true, .thr true, .thr true, .dlv false 1, .thr false, .thr false, .thr false, .dlv true 1,
      .thr true, .dlv false 5, .dlv false 5, .dlv false 3, .thr false, .dlv true 1, .thr true, .app true, .app true]).map
    (fun s => (s.a.app, s.b.delivered, s.log)) = some (.fin true, [blk1], transcript [enc1]) := by decide +kernel

/-- the same with a corrupted data byte: NAK, nothing delivered, `send_message` returns `False` -/
example : ((sys false [enc2] (some (1, 11, 66))).run [.app true, .thr true, .thr true, .dlv false 1, .thr false, .thr false, .thr false,
      .dlv true 1, .thr true, .dlv false 15, .thr false, .dlv true 1, .thr true, .app true]).map
    (fun s => (s.a.app, s.b.delivered, s.log.getLast?)) = some (.fin false, [], some (false, [NAK])) := by decide +kernel

end SecsModel.Props.C17
