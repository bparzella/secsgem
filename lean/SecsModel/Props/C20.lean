import SecsModel.Proofs.Pair
import SecsModel.Proofs.PairData
import SecsModel.Gen.Machines
/-!
# C20 — a host and an equipment reach communication and agree on data (abstract pair model)

**Partial by nature** (DESIGN §5 C20): the theorems are about `Model.Pair`, the product of the HSMS session and GEM
communication machines of two endpoints joined by FIFO channels.  Wall-clock convergence of OS threads is exercised by
`tools/harness/c20.py` on the real pair; what is proved here is (i) safety for all histories, (ii) that the handshake
completes under every delivery order once the link is up, and (iii) exactly which timing assumption convergence from
stale states needs (T3 > establish-communications delay), with the fair non-converging cycle as a witness when it fails.
The message-level part (`service_agreement`, `events_exactly_once`) is about `Model.PairData`.
-/
namespace SecsModel.Props.C20
open SecsModel.Model.Pair SecsModel.Proofs.Pair

def connName : Conn → String
  | .nc => "NOT_CONNECTED" | .ns => "CONNECTED_NOT_SELECTED" | .sel => "CONNECTED_SELECTED"
def commName : Comm → String
  | .dis => "DISABLED" | .notc => "NOT_COMMUNICATING" | .wcra => "WAIT_CRA" | .wdelay => "WAIT_DELAY" | .comm => "COMMUNICATING"

/-- `a → b` is a transition of the generated machine table -/
def inTable (t : Gen.MachineTable) (a b : String) : Bool :=
  t.transitions.any (fun tr => tr.2.1.contains a && tr.2.2 == b)

/-- **Tie to the source (regenerated on every run).**  `connOk` / `commOk` are the predicates by which the harness judges an observed
trace of the real pair (`Model/Pair.lean`, "projection"); nothing here relates them to `Pair.step`.  `connOk` is exactly the transition
relation of the shipped `ConnectionStateMachine`, and every transition `commOk` admits is one of the shipped
`CommunicationStateMachine` (the table additionally allows `s1f13received` from WAIT_DELAY, which no handler requests). -/
theorem tables_match_source :
    (∀ a b : Conn, connOk a b = inTable Gen.ConnSM (connName a) (connName b))
    ∧ (∀ a b : Comm, commOk .sel a b = true → inTable Gen.CommSM (commName a) (commName b) = true) := by
  constructor
  · intro a b; cases a <;> cases b <;> decide
  · intro a b; cases a <;> cases b <;> decide

/-- **Safety, every history, both role assignments.**  Whatever sequence of enables, disables, link ups and downs, message
deliveries (in any order) and timer expiries happens: an end reports COMMUNICATING only while its session is SELECTED, both
sessions are NOT CONNECTED together, nothing is in flight without a link, and DISABLED ⇔ not enabled. -/
theorem safety_all_histories (aActive : Bool) (ss : List Step) (p : Pair) (h : run (init aActive) ss = some p) : Inv p :=
  inv_run ss (init aActive) p (inv_init aActive) h

/-- communication is established ONLY by completing an S1F13/S1F14(COMMACK 0) exchange while SELECTED and in WAIT_CRA: no timer,
enable, link or other step makes an end COMMUNICATING -/
theorem established_only_by_exchange (p p' : Pair) (s : Step) (x : Side) (hs : step p s = some p')
    (h0 : (p.get x).comm ≠ .comm) (h1 : (p'.get x).comm = .comm) :
    s = .deliver x ∧ (p.get x).conn = .sel ∧ (p.get x).comm = .wcra
      ∧ ∃ m rest, p.inbox x = m :: rest ∧ (m = .s1f13 ∨ m = .s1f14 true) := by
  by_cases hsx : s = .deliver x
  · subst hsx
    simp only [step] at hs
    split at hs <;> cases hs
    next m rest hin =>
    simp only [get_send, get_set, if_true] at h1
    obtain ⟨a, b, c⟩ := handle_comm _ m h1 h0
    exact ⟨rfl, a, b, m, rest, hin, c⟩
  · rcases step_comm hs x hsx with e | e
    · exact absurd (e ▸ h1) h0
    · exact absurd h1 e

/-- **Start-up, all delivery orders, both role assignments, both enable orders.**  After `enable`,`enable`,`linkUp` every
interleaving of message deliveries ends — after at most 8 deliveries — with both ends COMMUNICATING and nothing in flight. -/
theorem startup_converges :
    ∀ aActive : Bool, ∀ order : Bool,
      (match run (init aActive) (if order then [.enable .A, .enable .B, .linkUp] else [.enable .B, .enable .A, .linkUp]) with
       | some p => allDeliveriesConverge 8 p
       | none => false) = true := by decide

def established (aActive : Bool) : Pair :=
  { a := ⟨true, aActive, .sel, .comm⟩, b := ⟨true, !aActive, .sel, .comm⟩, ab := [], ba := [] }

/-- `established` is what start-up reaches (one concrete delivery order; `startup_converges` covers all orders) -/
theorem established_reachable : ∀ aActive : Bool,
    run (init aActive) ([.enable .A, .enable .B, .linkUp] ++
      (if aActive then [.deliver .B, .deliver .A, .deliver .A, .deliver .B, .deliver .B, .deliver .A]
       else [.deliver .A, .deliver .B, .deliver .B, .deliver .A, .deliver .A, .deliver .B])) = some (established aActive) := by decide

/-- **Disable / re-enable.**  From `established`, disabling either side drops the link for both and takes BOTH ends out of
COMMUNICATING; re-enabling it and bringing the link up again converges under every delivery order. -/
theorem reenable_converges : ∀ aActive : Bool, ∀ who : Side,
    ((match run (established aActive) [.disable who] with
      | some q => q.a.comm ≠ .comm && q.b.comm ≠ .comm && q.a.conn = .nc && q.b.conn = .nc
      | none => false)
     && (match run (established aActive) [.disable who, .enable who, .linkUp] with
      | some p => allDeliveriesConverge 8 p
      | none => false)) = true := by
  intro aActive who; cases aActive <;> cases who <;> decide

/-- **Link loss without disable** (peer process restarted, cable pulled): both ends leave COMMUNICATING, and when the link
returns the handshake converges again under every delivery order. -/
theorem linkloss_converges : ∀ aActive : Bool,
    ((match run (established aActive) [.linkDown] with
      | some q => q.a.comm = .notc && q.b.comm = .notc
      | none => false)
     && (match run (established aActive) [.linkDown, .linkUp] with
      | some p => allDeliveriesConverge 8 p
      | none => false)) = true := by decide

/-- **Why a timing assumption is needed.**  In the untimed model a weakly fair schedule exists that never converges: with both
ends SELECTED, A in WAIT_CRA and B in WAIT_DELAY, the timers can alternate so that each S1F13 arrives while its receiver
is in WAIT_DELAY (where the code ignores it); after twelve steps the pair is back in the same state. -/
theorem lockstep_cycle :
    let p : Pair := { a := ⟨true, true, .sel, .wcra⟩, b := ⟨true, false, .sel, .wdelay⟩, ab := [], ba := [] }
    run p [.t3 .A, .delay .B, .deliver .A, .t3 .B, .delay .A, .deliver .B,
           .t3 .A, .delay .B, .deliver .A, .t3 .B, .delay .A, .deliver .B] = some p
    ∧ bothComm p = false := by decide

/-- **The timing assumption.**  Let each end alternate WAIT_CRA for `t3` time units and WAIT_DELAY for `d` units (period
`t3 + d`), sending S1F13 on entering WAIT_CRA, and let `o` be the offset of B's cycle against A's.  If `d < t3` then within one
period an S1F13 of one end arrives while the other is in WAIT_CRA (first disjunct: B's, sent at `o`, falls into A's window `[0, t3)`;
second: A's, sent at `0`, into B's window `[o, o + t3)` modulo the period); if `t3 ≤ d` there is an offset for which both always miss.
Pure arithmetic: that such an arrival completes the exchange is `overlap_completes`; no theorem ties the windows to `Pair.step`. -/
theorem timing_windows_overlap (t3 d o : Nat) (h : d < t3) (ho : o < t3 + d) :
    o < t3 ∨ (t3 + d - o) % (t3 + d) < t3 := by
  by_cases h1 : o < t3
  · exact Or.inl h1
  · right
    have : t3 + d - o < t3 + d := by omega
    rw [Nat.mod_eq_of_lt this]; omega

/-- the other half of the timing assumption: with `t3 ≤ d` the offset `o = t3` makes each end's S1F13 miss the other's WAIT_CRA window in
every period -/
theorem timing_windows_can_miss (t3 d : Nat) (h : t3 ≤ d) (hpos : 0 < t3) :
    ∃ o, o < t3 + d ∧ ¬ (o < t3) ∧ ¬ ((t3 + d - o) % (t3 + d) < t3) := by
  refine ⟨t3, by omega, by omega, ?_⟩
  have : t3 + d - t3 = d := by omega
  rw [this, Nat.mod_eq_of_lt (by omega)]; omega

/-- an S1F13 that reaches a SELECTED end in WAIT_CRA (or COMMUNICATING) is answered with S1F14/COMMACK 0, and that answer
moves a SELECTED requester in WAIT_CRA to COMMUNICATING: one overlap of the windows completes the exchange -/
theorem overlap_completes (e f : End) (he : e.conn = .sel) (hf : f.conn = .sel) (hec : e.comm = .wcra ∨ e.comm = .comm)
    (hfc : f.comm = .wcra) :
    (handleData e .s1f13).1.comm = .comm ∧ (handleData e .s1f13).2 = [.s1f14 true]
    ∧ (handleData f (.s1f14 true)).1.comm = .comm := by
  obtain ⟨en, act, c, m⟩ := e
  obtain ⟨en', act', c', m'⟩ := f
  simp only at he hf hec hfc
  subst he hf hfc
  rcases hec with h | h <;> subst h <;> simp [handleData]

open SecsModel.Proofs.PairData in
/-- **Service agreement** (message level).  For any equipment tables `σ` with any answer function, any interleaving of host
calls, equipment-side updates, triggers and deliveries: every completed host call `(sys, request, reply)` is the reply the
equipment computed for THAT request from what it held at the moment it handled it — never another caller's reply. -/
theorem service_agreement {σ Req Rsp Ev : Type} (ans : σ → Req → σ × Rsp) (upd : σ → σ) (e : σ) (c0 : Nat)
    (ops : List (Model.PairData.Op Req Ev)) (sys : Nat) (r : Req) (rsp : Rsp)
    (h : (sys, r, rsp) ∈ (Model.PairData.run ans upd (Model.PairData.init e c0 : Model.PairData.St σ Req Rsp Ev) ops).results) :
    ∃ σ0, (sys, σ0, r, rsp) ∈ (Model.PairData.run ans upd (Model.PairData.init e c0 : Model.PairData.St σ Req Rsp Ev) ops).handled ∧ (ans σ0 r).2 = rsp :=
  (run_induction ans upd (serviceInv_step ans upd) ops _ (serviceInv_init ans e c0)).res sys r rsp h

open SecsModel.Proofs.PairData in
/-- **Events exactly once, in order** (message level).  The events handed to the host application followed by those still in
flight are exactly the triggered events; so once the channel has drained every triggered event has reached the host
exactly once. -/
theorem events_exactly_once {σ Req Rsp Ev : Type} (ans : σ → Req → σ × Rsp) (upd : σ → σ) (e : σ) (c0 : Nat)
    (ops : List (Model.PairData.Op Req Ev)) :
    let s := Model.PairData.run ans upd (Model.PairData.init e c0 : Model.PairData.St σ Req Rsp Ev) ops
    s.received ++ Model.PairData.eventsInFlight s.eh = s.triggered
    ∧ (Model.PairData.eventsInFlight s.eh = [] → s.received = s.triggered) := by
  have h := run_induction ans upd (events_step ans upd) ops (Model.PairData.init e c0 : Model.PairData.St σ Req Rsp Ev)
    (by simp [Model.PairData.init, Model.PairData.eventsInFlight])
  refine ⟨h, ?_⟩
  intro h0
  rw [h0, List.append_nil] at h
  exact h

/-- non-vacuity of the message-level theorems: two calls and a trigger, replies delivered out of phase -/
example :
    let ans : Nat → Nat → Nat × Nat := fun st q => (st + 1, st * 10 + q)
    let s := Model.PairData.run ans id (Model.PairData.init 5 100 : Model.PairData.St Nat Nat Nat String)
      [.call 1, .call 2, .trigger "ev", .equipRx, .update (), .equipRx, .hostRx, .hostRx, .hostRx]
    s.results = [(101, 1, 51), (102, 2, 62)] ∧ s.received = ["ev"] ∧ s.outstanding = [] := by decide

end SecsModel.Props.C20
