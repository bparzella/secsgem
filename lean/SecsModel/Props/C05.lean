import SecsModel.Proofs.HsmsFsm
/-!
# C05 — HSMS session follows the E37 connect/select state model for every history

`step Defects.none` is the code as it is.  `step Defects.preFix` is the code before the two `fix:` commits 812b685 (Select.rsp /
Deselect.rsp act only for an open request with status 0) and bfe991b (Separate.req in SELECTED leaves SELECTED); its theorems
(`C05_prefix_…`) stay because the harness replays their witnesses on every run: a revert of either commit makes the implementation
show the `preFix` behaviour again, which these theorems prove to deviate from E37 on exactly the rows `deviates` names.
Theorems that hold for both variants quantify over `d`.
-/
namespace SecsModel.Props.C05
open SecsModel SecsModel.Model.Hsms SecsModel.Proofs.HsmsFsm
open SecsModel.Spec.E37 (Conn Trigger next)

/-- The shipped `ConnectionStateMachine` (states, parents, transitions with their source lists, initial state, public methods)
is the E37 engine table. -/
theorem C05_table :
    Gen.ConnSM.states = Spec.E37.engineStates ∧ Gen.ConnSM.transitions = Spec.E37.engineTransitions
    ∧ Gen.ConnSM.initial = Spec.E37.engineInitial ∧ Gen.ConnSM.methods = Spec.E37.engineMethods := by
  decide +kernel

/-- SType codes and the control-message header constructors are the E37 ones (Reject.req: byte 2 = SType of the rejected message,
byte 3 = reason). -/
theorem C05_headers :
    [("DATA_MESSAGE", Gen.HsmsSType.DATA_MESSAGE), ("SELECT_REQ", Gen.HsmsSType.SELECT_REQ), ("SELECT_RSP", Gen.HsmsSType.SELECT_RSP),
     ("DESELECT_REQ", Gen.HsmsSType.DESELECT_REQ), ("DESELECT_RSP", Gen.HsmsSType.DESELECT_RSP), ("LINKTEST_REQ", Gen.HsmsSType.LINKTEST_REQ),
     ("LINKTEST_RSP", Gen.HsmsSType.LINKTEST_RSP), ("REJECT_REQ", Gen.HsmsSType.REJECT_REQ), ("SEPARATE_REQ", Gen.HsmsSType.SEPARATE_REQ)]
      = Spec.E37.sTypeCodes
    ∧ Gen.HsmsSType.values = Spec.E37.sTypeCodes.map (·.2)
    ∧ Gen.HsmsHeader.ctors = Spec.E37.headerCtors := by
  decide +kernel

/-- What the hand model assumes about `HsmsProtocol.__init__`, the close handlers and the linktest timer: the three state-event registrations; a
Separate.req is sent in `_on_disconnecting`, and `_on_disconnected` performs `disconnect()` and fires `disconnected`; `_on_state_connect` starts the
linktest timer, then (active side) the select thread, `_on_state_disconnect` cancels and clears the timer, `_on_linktest_timer` sends a Linktest.req
and re-arms. -/
theorem C05_wiring :
    Gen.HsmsProto.wiring = [("CONNECTED", "enter", "_on_state_connect"), ("CONNECTED", "leave", "_on_state_disconnect"),
                            ("CONNECTED_SELECTED", "enter", "_on_state_select")]
    ∧ Gen.HsmsProto.onDisconnecting.map parseStmt = [.sendSeparate]
    ∧ Gen.HsmsProto.onDisconnected.map parseStmt = [.setConnected, .sm "disconnect", .threadStop, .bufferClear, .fire "disconnected"]
    ∧ Gen.HsmsProto.onStateConnect = ["start_linktest_timer", "if_active start_select_thread"]
    ∧ Gen.HsmsProto.onStateDisconnect = ["cancel_linktest_timer", "clear_linktest_timer"]
    ∧ Gen.HsmsProto.onLinktestTimer = ["send_linktest_req", "start_linktest_timer"] := by
  exact ⟨by decide +kernel, onDisconnecting_parsed, onDisconnected_parsed, by decide +kernel⟩

/-- **Which E37 timers the code implements** (generated from the source on every run).  T6 is read only in `hsms/protocol.py` (the bound
of the three `send_*_req` waits); T5 only by the TCP client connection; T7 and T8 are settings nothing reads, and nothing performs
the `timeoutT7` transition of the connection state machine: a connected endpoint that is never selected stays NOT SELECTED for ever, and
an expired control transaction is not treated as a communication failure.  Timers are outside the alphabet C05 quantifies over; if one of
them gets implemented this obligation breaks and the model has to follow. -/
theorem C05_timers_in_code :
    Gen.HsmsProto.timeoutRefs = [("t5", ["common/tcp_client_connection.py"]), ("t6", ["hsms/protocol.py"]), ("t7", []), ("t8", [])]
    ∧ Gen.HsmsProto.t7Performers = [] := by
  decide +kernel

/-- the E37 trigger an input is, given the auxiliary state (open requests, closing flag) -/
def absT (s : St) : In → Trigger
  | .connect => .tcpUp
  | .peerClose => .tcpDown
  | .disableBegin => .other
  | .disableEnd => if s.disconnecting then .tcpDown else .other
  | .rxCtrl .selectReq _ _ => .selectReq
  | .rxCtrl .selectRsp sys status => .selectRsp (isOpenKind s sys .select) status
  | .rxCtrl .deselectReq _ _ => .deselectReq
  | .rxCtrl .deselectRsp sys status => .deselectRsp (isOpenKind s sys .deselect) status
  | .rxCtrl .linktestReq _ _ => .linktestReq
  | .rxCtrl .separateReq _ _ => .separateReq
  | .rxCtrl .linktestRsp _ _ => .other
  | .rxCtrl .rejectReq _ _ => .other
  | .rxData .. => .other
  | .rxDataQueued .. => .other
  | .apiSelect => .other
  | .apiDeselect => .other
  | .apiLinktest => .other
  | .timeoutT6 _ => .other
  | .linktestTimer => .other

/-- the E37 trigger the variant `d` takes an input for: with `selectRspUnchecked` every Select.rsp / Deselect.rsp counts as the accepted
answer to an open request, with `separateIgnored` a Separate.req is no trigger at all; for `Defects.none` this is `absT` -/
def absTd (d : Defects) (s : St) : In → Trigger
  | .rxCtrl .selectRsp sys status => if d.selectRspUnchecked then .selectRsp true 0 else .selectRsp (isOpenKind s sys .select) status
  | .rxCtrl .deselectRsp sys status => if d.selectRspUnchecked then .deselectRsp true 0 else .deselectRsp (isOpenKind s sys .deselect) status
  | .rxCtrl .separateReq _ _ => if d.separateIgnored then .other else .separateReq
  | i => absT s i

theorem absTd_none (s : St) (i : In) : absTd .none s i = absT s i := by
  cases i with
  | rxCtrl st _ _ => cases st <;> rfl
  | _ => rfl

theorem handleCtrl_conn (d : Defects) (s : St) (st : SType) (sys status : Int) :
    (handleCtrl d s st sys status).1.conn = next s.conn s.disconnecting (absTd d s (.rxCtrl st sys status)) := by
  -- push `.1.conn` through the handler's branches; what is left compares two nests of `if`s over the same conditions, row by row
  cases st <;> simp only [handleCtrl, absTd, absT, next, apply_ite Prod.fst, apply_ite St.conn, withTransition_conn, smCall_select, smCall_deselect,
    putIfOpen_conn, implies_true]
  -- requests: session state × closing flag
  case selectReq | deselectReq | linktestReq => cases s.conn <;> cases s.disconnecting <;> simp
  -- responses: variant × session state × open request × status
  case selectRsp => cases d.selectRspUnchecked <;> cases s.conn <;> cases isOpenKind s sys .select <;> by_cases h0 : status = 0 <;> simp [h0]
  case deselectRsp => cases d.selectRspUnchecked <;> cases s.conn <;> cases isOpenKind s sys .deselect <;> by_cases h0 : status = 0 <;> simp [h0]
  case separateReq => cases d.separateIgnored <;> cases s.conn <;> simp

/-- Step refinement for every variant: the connection state after a step is the E37 successor for the trigger the variant takes the
input for: the variants differ from E37 only in how they read three kinds of control message. -/
theorem step_refines (d : Defects) (s : St) (i : In) :
    (step d s i).1.conn = next s.conn s.disconnecting (absTd d s i) := by
  cases i with
  | connect =>
    simp only [step, absTd, absT, next]
    split
    · rw [connect_nc _ ‹_›]; split <;> rfl
    · rfl
  | peerClose =>
    simp only [step, absTd, absT, next]
    split
    · assumption
    · rw [closeSeq_connected _ ‹_›]
  | disableBegin => simp only [step, absTd, absT, next]; split <;> rfl
  | disableEnd =>
    -- with the closing flag up this is `peerClose`, without it nothing happens
    simp only [step, absTd, absT]
    cases hd : s.disconnecting
    · simp [next]
    · by_cases hn : s.conn = .notConnected
      · simp [hn, next]
      · simp [hn, next, closeSeq_connected _ hn]
  | rxCtrl st sys status =>
    simp only [step]
    split
    · -- in NOT CONNECTED no row of the table but `tcpUp` moves
      have hnc (t : Trigger) (ht : t ≠ .tcpUp) : next .notConnected s.disconnecting t = .notConnected := by cases t <;> simp [next] at ht ⊢
      rename_i h
      simp only [h]
      rw [hnc]
      cases st <;> simp [absTd, absT, apply_ite (· = Trigger.tcpUp)]
    · exact handleCtrl_conn d s st sys status
  | rxData st f w sys dcd => simp only [step, handleData, absTd, absT, next, apply_ite Prod.fst, apply_ite St.conn, closeSys_conn, ite_self]
  | rxDataQueued st f w sys dcd =>
    simp only [step, handleDataQueued, handleData, absTd, absT, next, apply_ite Prod.fst, apply_ite St.conn, closeSys_conn, ite_self]
  | apiSelect => simp only [step, absTd, absT, next]; split <;> rfl
  | apiDeselect => simp only [step, absTd, absT, next]; split <;> rfl
  | apiLinktest => simp only [step, absTd, absT, next]; split <;> rfl
  | timeoutT6 sys => exact closeSys_conn s sys
  | linktestTimer => simp only [step, absTd, absT, next, apply_ite Prod.fst, apply_ite St.conn, onLinktestTimer_conn, ite_self]

/-- **Step refinement.**  The connection state after a step is the E37 successor — every state, every input (timers and local requests
included: they leave the session state alone). -/
theorem C05_step_refines (s : St) (i : In) :
    (step .none s i).1.conn = next s.conn s.disconnecting (absT s i) :=
  absTd_none s i ▸ step_refines .none s i

/-- non-vacuity: a solicited, accepted Select.rsp in NOT SELECTED (active mode) is a row the theorem covers with a state change -/
example : (step .none ⟨.notSelected, false, true, 1001, [(1001, .select)], false, 0⟩ (.rxCtrl .selectRsp 1001 0)).1.conn = .selected := by decide +kernel

/-- the two variants differ only in how Select.rsp, Deselect.rsp and Separate.req are handled: state and outputs of every other step agree -/
theorem step_preFix_eq_none (s : St) (i : In)
    (h : ∀ sys status, i ≠ .rxCtrl .selectRsp sys status ∧ i ≠ .rxCtrl .deselectRsp sys status ∧ i ≠ .rxCtrl .separateReq sys status) :
    step .preFix s i = step .none s i := by
  cases i with
  | rxCtrl st sys status =>
    cases st
    case selectRsp => exact absurd rfl (h sys status).1
    case deselectRsp => exact absurd rfl (h sys status).2.1
    case separateReq => exact absurd rfl (h sys status).2.2
    all_goals rfl
  | _ => rfl

/-- the rows of the E37 table on which the code before the fix (`Defects.preFix`) deviates:
F-4 a Select.rsp in NOT SELECTED that is unsolicited or carries a non-zero status (same for Deselect.rsp in SELECTED);
F-5 a Separate.req in SELECTED. -/
def deviates (s : St) : In → Bool
  | .rxCtrl .selectRsp sys status => s.conn == .notSelected && !(isOpenKind s sys .select && status == 0)
  | .rxCtrl .deselectRsp sys status => s.conn == .selected && !(isOpenKind s sys .deselect && status == 0)
  | .rxCtrl .separateReq _ _ => s.conn == .selected
  | _ => false

theorem next_preFix_ne_iff (s : St) (i : In) :
    next s.conn s.disconnecting (absTd .preFix s i) ≠ next s.conn s.disconnecting (absT s i) ↔ deviates s i = true := by
  cases i with
  | rxCtrl st sys status =>
    cases st <;> simp only [absTd, absT, deviates, Defects.preFix, next, if_true] <;> cases s.conn <;> simp
    · cases isOpenKind s sys .select <;> simp
    · cases isOpenKind s sys .deselect <;> simp
  | _ => simp [absTd, deviates]

/-- **The deviation is exact**: the pre-fix variant leaves the E37 successor state on exactly the rows `deviates` names. -/
theorem C05_prefix_deviation_exact (s : St) (i : In) :
    (step .preFix s i).1.conn ≠ next s.conn s.disconnecting (absT s i) ↔ deviates s i = true := by
  rw [step_refines]
  exact next_preFix_ne_iff s i

/-- **Step refinement of the pre-fix variant, partial.**  On every state and every input that is not one of the deviating rows the connection
state after the step is the E37 successor. -/
theorem C05_prefix_step_refines_partial (s : St) (i : In) (h : deviates s i = false) :
    (step .preFix s i).1.conn = next s.conn s.disconnecting (absT s i) :=
  Decidable.not_not.1 fun hne => by simp [(C05_prefix_deviation_exact s i).1 hne] at h

/-- non-vacuity of the partial theorem: a Select.req in NOT SELECTED is not a deviating row and changes the state -/
example : deviates ⟨.notSelected, false, false, 7, [], false, 0⟩ (.rxCtrl .selectReq 5 0) = false
    ∧ (step .preFix ⟨.notSelected, false, false, 7, [], false, 0⟩ (.rxCtrl .selectReq 5 0)).1.conn = .selected := by decide +kernel

/-- the E37 machine run beside the model: it reads from the model state only what classifies the next trigger
(open requests, closing flag), never the model's connection state -/
def specAlong (d : Defects) : Conn → St → List In → Conn
  | c, _, [] => c
  | c, s, i :: is => specAlong d (next c s.disconnecting (absT s i)) (step d s i).1 is

/-- no step of the history is a deviating row (evaluated along the run of the pre-fix variant) -/
def devFree : St → List In → Bool
  | _, [] => true
  | s, i :: is => !deviates s i && devFree (step .preFix s i).1 is

theorem final_cons (d : Defects) (s : St) (i : In) (is : List In) : final d s (i :: is) = final d (step d s i).1 is := by
  simp [final, run]

/-- **Every history.**  After any finite sequence of inputs, from any state, the connection
state is the one the E37 table reaches. -/
theorem C05_history (s : St) (is : List In) : (final .none s is).conn = specAlong .none s.conn s is := by
  induction is generalizing s with
  | nil => rfl
  | cons i is ih =>
    rw [final_cons, ih, specAlong, C05_step_refines]

/-- **Every history (pre-fix variant), partial.**  For any finite sequence of inputs none of whose steps is a deviating row, the
connection state is the one the E37 table reaches. -/
theorem C05_prefix_history_partial (s : St) (is : List In) (h : devFree s is = true) :
    (final .preFix s is).conn = specAlong .preFix s.conn s is := by
  induction is generalizing s with
  | nil => rfl
  | cons i is ih =>
    simp only [devFree, Bool.and_eq_true, Bool.not_eq_eq_eq_not, Bool.not_true] at h
    rw [final_cons, ih _ h.2, specAlong, C05_prefix_step_refines_partial s i h.1]

/-- non-vacuity: connect, Select.req, Deselect.req, Select.req, data, peer close, connect — seven non-deviating steps through all three states -/
example : devFree (St.init false 100)
    [.connect, .rxCtrl .selectReq 1 0, .rxCtrl .deselectReq 2 0, .rxCtrl .selectReq 3 0, .rxData 1 1 true 4 true, .peerClose, .connect] = true
    ∧ (final .preFix (St.init false 100)
    [.connect, .rxCtrl .selectReq 1 0, .rxCtrl .deselectReq 2 0, .rxCtrl .selectReq 3 0, .rxData 1 1 true 4 true, .peerClose, .connect]).conn = .notSelected := by
  decide +kernel

/-- F-4: passive endpoint, connect, unsolicited Select.rsp (system 4242): the code is SELECTED, E37 says NOT SELECTED -/
theorem C05_prefix_witness_select_rsp_unsolicited :
    (final .preFix (St.init false 1000) [.connect, .rxCtrl .selectRsp 4242 0]).conn = .selected
    ∧ specAlong .preFix .notConnected (St.init false 1000) [.connect, .rxCtrl .selectRsp 4242 0] = .notSelected := by
  decide +kernel

/-- F-4: active endpoint, connect (Select.req 1001 goes out), Select.rsp 1001 with status 1 (refused): the code is SELECTED -/
theorem C05_prefix_witness_select_rsp_refused :
    (final .preFix (St.init true 1000) [.connect, .rxCtrl .selectRsp 1001 1]).conn = .selected
    ∧ specAlong .preFix .notConnected (St.init true 1000) [.connect, .rxCtrl .selectRsp 1001 1] = .notSelected := by
  decide +kernel

/-- F-4, same shape: SELECTED, unsolicited Deselect.rsp: the code is NOT SELECTED, E37 says SELECTED -/
theorem C05_prefix_witness_deselect_rsp_unsolicited :
    (final .preFix (St.init false 1000) [.connect, .rxCtrl .selectReq 1 0, .rxCtrl .deselectRsp 77 0]).conn = .notSelected
    ∧ specAlong .preFix .notConnected (St.init false 1000) [.connect, .rxCtrl .selectReq 1 0, .rxCtrl .deselectRsp 77 0] = .selected := by
  decide +kernel

/-- F-5: SELECTED, Separate.req: the code stays SELECTED, E37 leaves SELECTED -/
theorem C05_prefix_witness_separate_ignored :
    (final .preFix (St.init false 1000) [.connect, .rxCtrl .selectReq 1 0, .rxCtrl .separateReq 7 0]).conn = .selected
    ∧ specAlong .preFix .notConnected (St.init false 1000) [.connect, .rxCtrl .selectReq 1 0, .rxCtrl .separateReq 7 0] = .notSelected := by
  decide +kernel

def isRequest : SType → Bool
  | .selectReq | .deselectReq | .linktestReq => true
  | _ => false

def rspOf : SType → SType
  | .selectReq => .selectRsp | .deselectReq => .deselectRsp | .linktestReq => .linktestRsp | st => st

/-- **Exactly one response.**  A Select, Deselect or Linktest request received on an established connection causes exactly one
frame to be written: the response of the matching type with the request's system bytes — or, while the endpoint is closing the
connection, a Reject.req with the request's system bytes (byte 2 = the request's SType, byte 3 = 4).  This includes a Select.req
when already SELECTED and a Deselect.req when NOT SELECTED, where the transition raises after the response was sent. -/
theorem C05_one_response (d : Defects) (s : St) (st : SType) (sys status : Int) (hreq : isRequest st = true) (hc : s.conn ≠ .notConnected) :
    txs (step d s (.rxCtrl st sys status)).2 =
      [if s.disconnecting then Out.tx SType.rejectReq.code sys st.code 4 else Out.tx (rspOf st).code sys 0 0] := by
  cases st <;> cases hreq <;>
    simp only [step, if_neg hc, handleCtrl, rspOf, apply_ite Prod.snd, apply_ite txs, withTransition_txs s _ _ hc] <;> split <;> rfl

/-- non-vacuity: Select.req while SELECTED gives exactly Select.rsp, then the swallowed exception -/
example : (step .none ⟨.selected, false, false, 7, [], false, 0⟩ (.rxCtrl .selectReq 5 0)).2
    = [.tx SType.selectRsp.code 5 0 0, .swallowed .wrongSource] := by decide +kernel

/-- a data message handled now: received on the live connection (`queued = false`), or dispatched from the queue where it waited behind
a busy handler (`queued = true`) -/
def dataIn (queued : Bool) (st f : Int) (w : Bool) (sys : Int) (dcd : Bool) : In :=
  if queued then .rxDataQueued st f w sys dcd else .rxData st f w sys dcd

/-- **Gate.**  A data message handled while not SELECTED — NOT SELECTED or NOT CONNECTED, freshly received or dispatched from the
queue after the connection it came on was closed — is never delivered (neither to the application nor to a waiting requester) and
changes nothing.  In NOT SELECTED exactly one frame is written: Reject.req with the message's system bytes, byte 2 = 0 (the SType of a
data message), byte 3 = 4 (entity not selected).  In NOT CONNECTED no frame is written: a block dispatched from the queue puts that
Reject.req into the send queue of the dead connection (`txBlocked`), a frame cannot arrive at all.  Holds whether or not the message is
catalogued or decodable. -/
theorem C05_gate (d : Defects) (s : St) (q : Bool) (st f : Int) (w : Bool) (sys : Int) (dcd : Bool) (hc : s.conn ≠ .selected) :
    delivers (step d s (dataIn q st f w sys dcd)).2 = []
    ∧ (step d s (dataIn q st f w sys dcd)).1 = s
    ∧ (s.conn = .notSelected → (step d s (dataIn q st f w sys dcd)).2 = [.tx SType.rejectReq.code sys Gen.HsmsSType.DATA_MESSAGE 4])
    ∧ (s.conn = .notConnected → txs (step d s (dataIn q st f w sys dcd)).2 = []
        ∧ (q = true → (step d s (dataIn q st f w sys dcd)).2 = [.txBlocked SType.rejectReq.code sys Gen.HsmsSType.DATA_MESSAGE 4])) := by
  obtain ⟨c, dc, ac, ctr, opn, lts, lto⟩ := s
  cases c
  · cases q <;> simp [dataIn, step, handleDataQueued, delivers, txs]
  · cases q <;> simp [dataIn, step, handleData, handleDataQueued, delivers, reject]
  · exact absurd rfl hc

/-- non-vacuity: an uncatalogued, undecodable S99F1 with the W-bit while NOT SELECTED is rejected with its system bytes, reason 4; the
same block dispatched from the queue after the connection was closed is not delivered either -/
example : (step .none ⟨.notSelected, false, false, 7, [], false, 0⟩ (.rxData 99 1 true 12 false)).2 = [.tx 7 12 0 4]
    ∧ (step .none ⟨.notConnected, false, false, 7, [], false, 0⟩ (.rxDataQueued 1 1 true 102 true)).2 = [.txBlocked 7 102 0 4] := by decide +kernel

/-- **SELECTED delivers exactly once.**  A data message handled while SELECTED (received, or dispatched from the queue) produces exactly
one output: it is put on the queue of the requester waiting on its system bytes if it is a reply (even function code) and there is such a
requester, otherwise handed to the application (`message_received`) — in particular a primary (odd function) whose system bytes collide
with an open local transaction goes to the application; no frame is written and the connection state stays SELECTED.  Holds for every
stream/function, W-bit and body. -/
theorem C05_selected_delivers (d : Defects) (s : St) (q : Bool) (st f : Int) (w : Bool) (sys : Int) (dcd : Bool) (hc : s.conn = .selected) :
    (step d s (dataIn q st f w sys dcd)).2 = [if f % 2 = 0 ∧ isOpen s sys = true then Out.deliverWaiter sys else Out.deliverApp sys]
    ∧ (step d s (dataIn q st f w sys dcd)).1.conn = .selected := by
  obtain ⟨c, dc, ac, ctr, opn, lts, lto⟩ := s
  simp only at hc; subst hc
  cases q <;> simp only [dataIn, step, handleData, handleDataQueued] <;>
    by_cases ho : f % 2 = 0 ∧ isOpen ⟨.selected, dc, ac, ctr, opn, lts, lto⟩ sys = true <;> simp [ho]

/-- non-vacuity: SELECTED with a requester waiting on 1001: a reply (S1F2) with these system bytes goes to the requester, a primary (S1F1)
with the same system bytes and any message with other system bytes go to the application -/
example : (step .none ⟨.selected, false, true, 1001, [(1001, .select)], false, 0⟩ (.rxData 1 2 false 1001 true)).2 = [.deliverWaiter 1001]
    ∧ (step .none ⟨.selected, false, true, 1001, [(1001, .select)], false, 0⟩ (.rxData 1 1 true 1001 true)).2 = [.deliverApp 1001]
    ∧ (step .none ⟨.selected, false, true, 1001, [(1001, .select)], false, 0⟩ (.rxData 1 2 false 5 true)).2 = [.deliverApp 5]
    -- the W-bit plays no part: a primary WITHOUT W on the open system bytes still goes to the application (the requester keeps waiting),
    -- an even function WITH W on them goes to the requester
    ∧ step .none ⟨.selected, false, true, 1001, [(1001, .select)], false, 0⟩ (.rxData 5 1 false 1001 true)
        = (⟨.selected, false, true, 1001, [(1001, .select)], false, 0⟩, [.deliverApp 1001])
    ∧ (step .none ⟨.selected, false, true, 1001, [(1001, .select)], false, 0⟩ (.rxData 1 2 true 1001 true)).2 = [.deliverWaiter 1001] := by decide +kernel

/-- **The three statements at every point of every history** (from any start state, for both variants). -/
theorem C05_history_responses (d : Defects) (s0 : St) (is : List In) :
    let s := final d s0 is
    (∀ st sys status, isRequest st = true → s.conn ≠ .notConnected →
      txs (step d s (.rxCtrl st sys status)).2 =
        [if s.disconnecting then Out.tx SType.rejectReq.code sys st.code 4 else Out.tx (rspOf st).code sys 0 0])
    ∧ (∀ q st f w sys dcd, s.conn ≠ .selected → delivers (step d s (dataIn q st f w sys dcd)).2 = []
        ∧ (s.conn = .notSelected → (step d s (dataIn q st f w sys dcd)).2 = [.tx SType.rejectReq.code sys Gen.HsmsSType.DATA_MESSAGE 4]))
    ∧ (∀ q st f w sys dcd, s.conn = .selected →
        (step d s (dataIn q st f w sys dcd)).2 = [if f % 2 = 0 ∧ isOpen s sys = true then Out.deliverWaiter sys else Out.deliverApp sys]) := by
  intro s
  refine ⟨fun st sys status h1 h2 => C05_one_response d s st sys status h1 h2, ?_, ?_⟩
  · intro q st f w sys dcd h
    exact ⟨(C05_gate d s q st f w sys dcd h).1, (C05_gate d s q st f w sys dcd h).2.2.1⟩
  · intro q st f w sys dcd h
    exact (C05_selected_delivers d s q st f w sys dcd h).1

/-- non-vacuity: all three states are reachable by histories -/
example : (final .none (St.init true 5) [.connect]).conn = .notSelected
    ∧ (final .none (St.init true 5) [.connect, .rxCtrl .selectReq 9 0]).conn = .selected
    ∧ (final .none (St.init true 5) [.connect, .rxCtrl .selectReq 9 0, .disableBegin, .disableEnd]).conn = .notConnected := by
  decide +kernel

/-- **An unsolicited Select.rsp / Deselect.rsp is dropped silently.**  A Select.rsp (Deselect.rsp) whose system bytes are not those of a
Select.req (Deselect.req) this endpoint has open changes nothing and writes nothing — in particular no Reject.req (E37 asks for reason
"transaction not open"; C05's statement is about the session state and about answers to *requests*, so this is recorded, not demanded). -/
theorem C05_unsolicited_rsp_silent (s : St) (sys status : Int) :
    (isOpenKind s sys .select = false → step .none s (.rxCtrl .selectRsp sys status) = (s, []))
    ∧ (isOpenKind s sys .deselect = false → step .none s (.rxCtrl .deselectRsp sys status) = (s, [])) := by
  constructor <;> intro h <;> simp [step, handleCtrl, Defects.none, h]

/-- non-vacuity: the open Select.req of an active endpoint is 1001; a Select.rsp for 4242 is dropped, the one for 1001 selects -/
example : step .none ⟨.notSelected, false, true, 1001, [(1001, .select)], true, 0⟩ (.rxCtrl .selectRsp 4242 0)
      = (⟨.notSelected, false, true, 1001, [(1001, .select)], true, 0⟩, [])
    ∧ (step .none ⟨.notSelected, false, true, 1001, [(1001, .select)], true, 0⟩ (.rxCtrl .selectRsp 1001 0)).1.conn = .selected := by
  decide +kernel

/-- **Timers leave the session alone.**  T6 expiry only ends the requester's wait (no frame, no delivery, state unchanged — E37's
"communication failure" is not acted upon); a firing linktest timer writes at most one frame, a Linktest.req with a fresh system id
(none without a connection: it is put into the send queue), delivers nothing and leaves the session state unchanged. -/
theorem C05_timers_keep_state (d : Defects) (s : St) (sys : Int) :
    ((step d s (.timeoutT6 sys)).1.conn = s.conn ∧ (step d s (.timeoutT6 sys)).2 = [])
    ∧ ((step d s .linktestTimer).1.conn = s.conn ∧ delivers (step d s .linktestTimer).2 = []
        ∧ (txs (step d s .linktestTimer).2 = []
            ∨ txs (step d s .linktestTimer).2 = [.tx SType.linktestReq.code (nextCtr s.ctr) 0 0])) := by
  -- both timer inputs are `Trigger.other`, which keeps the state
  refine ⟨⟨step_refines d s (.timeoutT6 sys), rfl⟩, step_refines d s .linktestTimer, ?_⟩
  simp only [step, apply_ite Prod.snd, onLinktestTimer_out]
  split
  · split <;> simp [delivers, txs]
  · split
    · split <;> simp [delivers, txs]
    · simp [delivers, txs]

/-- **The linktest timer outlives the connection (recorded behaviour, not a C05 matter).**  Connect; the linktest timer fires
(Linktest.req 1001 goes out); the peer closes before answering; T6 expires: `_on_linktest_timer` re-arms the timer although the session is
NOT CONNECTED.  After the next connect there are two pending timers — the one `_on_state_connect` starts does not cancel the stray one. -/
theorem C05_linktest_timer_survives_close :
    let s1 := final .none (St.init false 1000) [.connect, .linktestTimer, .peerClose, .timeoutT6 1001]
    let s2 := final .none (St.init false 1000) [.connect, .linktestTimer, .peerClose, .timeoutT6 1001, .connect]
    s1.conn = .notConnected ∧ s1.ltStored = true ∧ s2.ltStored = true ∧ s2.ltOrphans = 1 := by
  decide +kernel

open Race in
/-- **Accept race.**  The accepting thread runs the statements of `_on_connected` in their source order (generated) while a
Select.req is already buffered; the dispatcher (`send_select_rsp`, then `select()`) runs as soon as `_thread.start()` has happened.
For every schedule: in every final state, if Select.rsp was sent the connection state is SELECTED. -/
theorem C05_accept_race (sched : List Bool) :
    let s := runSched (init Gen.HsmsProto.onConnected) sched
    isFinal s = true → s.rspSent = true → s.conn = .selected := by
  have ⟨hinit, _, hsafe⟩ := reachable_checked
  exact hsafe _ (run_reachable sched _ hinit)

open Race in
/-- non-vacuity: the schedule "accept thread to the end, then the dispatcher" is final, has sent Select.rsp and is SELECTED -/
example : let s := runSched (init Gen.HsmsProto.onConnected) [true, true, true, true, false, false]
    isFinal s = true ∧ s.rspSent = true ∧ s.conn = .selected ∧ s.raised = false := by decide +kernel

open Race in
/-- **Reverting the fix is a regression.**  With the old order (`_thread.start()` before `connect()`) the schedule
"start the threads, dispatcher handles the Select.req, then connect" ends NOT SELECTED although Select.rsp was sent. -/
theorem C05_witness_accept_race_old_order :
    let s := runSched (init oldOrder) [true, true, false, false, true, true]
    isFinal s = true ∧ s.rspSent = true ∧ s.raised = true ∧ s.conn = .notSelected := by
  decide +kernel

end SecsModel.Props.C05
