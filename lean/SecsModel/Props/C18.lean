import SecsModel.Proofs.SMGen
import SecsModel.Proofs.SMSched
/-!
# C18 — State-machine engine keeps one consistent current state under any transitions

Model: `Model.SM` (engine), `Model.SMSched` (concurrent callers, line granularity); spec: `Spec.SM`.
(a), (b), (c) below are the three scopes for which the invariant `active = ancestors-or-self of current` is proved.
-/
namespace SecsModel.Props.C18
open SecsModel.Model.SM SecsModel.Model.SMSched SecsModel.Spec.SM SecsModel.Gen
open SecsModel.Proofs.SM SecsModel.Proofs.SMFlat SecsModel.Proofs.SMGen SecsModel.Proofs.SMSched

/-- **Rejected request = no-op**, any machine, any handlers, at any nesting depth: an unknown name raises
`UnknownTransitionError`, a name whose sources do not contain the current state raises `WrongSourceStateError`; the
state returned is the state given (current, every flag, event log). -/
theorem rejected_noop (m : MDef) (h : Handlers) (f : Nat) (st : St) (name : String) :
    (lookup m name = none → perform m h (f+1) st name = .fail .unknown st) ∧
    (∀ srcs dst, lookup m name = some (srcs, dst) → srcs.contains st.cur = false →
      perform m h (f+1) st name = .fail .wrongSource st) :=
  ⟨perform_unknown, fun _ _ => perform_wrongSource⟩

/-- non-vacuity: `select` in NOT_CONNECTED is rejected, `nonsense` is unknown -/
example : perform (ofTable ConnSM) noHandlers 8 (initOf ConnSM) "select" = .fail .wrongSource (initOf ConnSM) ∧
    perform (ofTable ConnSM) noHandlers 8 (initOf ConnSM) "nonsense" = .fail .unknown (initOf ConnSM) := by
  constructor
  · exact ((rejected_noop _ _ 7 _ "select").2 [2] 3 (by decide +kernel) (by decide +kernel))
  · exact ((rejected_noop _ _ 7 _ "nonsense").1 (by decide +kernel))

/-- **Allowed request moves to exactly its destination** (any forest; any handlers that request nothing — `Quiet`: timers,
sends, event forwarding): a request that completed was allowed, and `current` is then the transition's destination.  (That an allowed
request completes, given fuel, is `SMBridge.perform_total`.) -/
theorem moves_to_destination (m : MDef) (hh : Handlers) (hq : Quiet hh) (f : Nat) (st st' : St) (name : String)
    (h : perform m hh f st name = .ok st') :
    ∃ srcs dst, lookup m name = some (srcs, dst) ∧ srcs.contains st.cur = true ∧ st'.cur = dst := by
  obtain ⟨srcs, hl, hc⟩ := (perform_quiet_ok hq h).lookup
  exact ⟨srcs, st'.cur, hl, hc, rfl⟩

example : (perform (ofTable ConnSM) noHandlers 8 (initOf ConnSM) "connect").st.cur = 2 := by decide +kernel

/-- **(a) every forest, handlers that request nothing (`Quiet`; `noHandlers` is one: `quiet_noHandlers`).**  `WF`: a parent is
created before its children (the `State` constructor takes the parent object).  Whether the request is performed or rejected, `active = ancestors-or-self of current` is kept. -/
theorem active_is_ancestors_forest (m : MDef) (wf : WF m) (hh : Handlers) (hq : Quiet hh) (f : Nat) (st : St) (name : String)
    (hinv : Inv m st) (hnf : (perform m hh f st name).err ≠ some .fuel) : Inv m (perform m hh f st name).st := by
  have rejected : ∀ (e : Fail) (s : St), (e = .unknown ∨ e = .wrongSource) ∧ s = st → Inv m s := fun _ _ h => h.2 ▸ hinv
  have performed : ∀ s, Performed m st name s → Inv m s := fun _ => inv_performed wf hinv
  exact ((perform_quiet m hq f st name).of_not_fuel hnf rejected performed).1

/-- non-vacuity: a three-level forest (0 ⊃ 1 ⊃ 2, 0 ⊃ 3, root 4) satisfies `WF`; the deep state goes to the shallow sibling subtree -/
def forest5 : MDef where
  n := 5
  parent := fun s => match s with | 1 => some 0 | 2 => some 1 | 3 => some 0 | _ => none
  trans := [("t", [2], 3), ("u", [3], 4), ("v", [4], 2)]

theorem forest5_wf : WF forest5 := by
  intro s p h
  simp only [forest5] at h
  split at h <;> cases h <;> omega

example : let o := perform forest5 noHandlers 16 (canon forest5 2) "t"
    o.err = none ∧ o.st.cur = 3 ∧ flags forest5 o.st = [true, false, false, true, false] ∧ invB forest5 o.st = true := by
  decide +kernel

/-- **(b) every flat machine, arbitrary nested requests from `enter` and `called` handlers** (the handlers may depend on the
whole state at the moment they run, and nested requests may fail): the invariant is kept by completed and by failed requests
alike, and a completed request has recorded `leave current`, `enter destination`, whatever the destination's enter handlers
performed, `called name`, whatever the called handlers performed — each nested transition again with exactly one leave, one
enter and one called (`Traces`). -/
theorem active_is_ancestors_flat_nested (m : MDef) (h : Handlers) (H : FlatH m h) (f : Nat) (st : St) (name : String)
    (hinv : Inv m st) (hnf : (perform m h f st name).err ≠ some .fuel) :
    Inv m (perform m h f st name).st ∧
    ∀ st', perform m h f st name = .ok st' → ∃ srcs dst es1 c1 es2,
      lookup m name = some (srcs, dst) ∧ srcs.contains st.cur = true ∧ Traces m dst es1 c1 ∧ Traces m c1 es2 st'.cur ∧
      st'.log = st.log ++ (.leave st.cur :: .enter dst :: (es1 ++ .called name :: es2)) := by
  have hk := ((flat_all H f).perform st name hinv).of_not_fuel hnf (fun _ _ hi => hi) fun _ h => h.1
  exact ⟨hk.1, fun st' e => (hk.2 st' e).2⟩

/-- non-vacuity of (b): the control machine with its real handlers is such a machine, for every configuration and probe outcome -/
example (c : Model.Gem.Ctrl.CState) (p : Option Model.Gem.Ctrl.Probe) : FlatH Model.Gem.Ctrl.ctrl (Model.Gem.Ctrl.handlers c p) :=
  ctrl_flatH c p

/-- configured "ONLINE", `start` performs `initial_online` and `initial_online_remote` nested in it -/
example : (Model.Gem.Ctrl.init "ONLINE" true).1.cur = 8 := by decide +kernel

/-- **(c) the three shipped machines with their handlers.**  Connection and communication machine (handlers request nothing):
from every state, every transition is either rejected with nothing changed, or performed to its destination with exact flags
and exactly the prescribed event sequence (`checkNoH`).  Control machine with the generated forwarders and the probe handler,
every initial configuration × remembered sub-state × probe outcome: every allowed transition terminates in the leaf its
destination forwards to with exact flags and as many `leave`/`enter` as `called` events (`checkCtrl`); by (b) the invariant also
holds for every other request. -/
theorem active_is_ancestors_shipped :
    (∀ c ∈ List.range (ofTable ConnSM).n, ∀ t ∈ (ofTable ConnSM).trans.map (·.1), checkNoH (ofTable ConnSM) c t = true) ∧
    (∀ c ∈ List.range (ofTable CommSM).n, ∀ t ∈ (ofTable CommSM).trans.map (·.1), checkNoH (ofTable CommSM) c t = true) ∧
    (∀ i ∈ inits, ∀ r ∈ [true, false], ∀ p ∈ probes, ∀ t ∈ Model.Gem.Ctrl.ctrl.trans, ∀ c ∈ t.2.1, checkCtrl i r p c t.1 = true) ∧
    (∀ (c : Model.Gem.Ctrl.CState) (p : Option Model.Gem.Ctrl.Probe) (f : Nat) (st : St) (name : String),
      Inv Model.Gem.Ctrl.ctrl st → (perform Model.Gem.Ctrl.ctrl (Model.Gem.Ctrl.handlers c p) f st name).err ≠ some .fuel →
      Inv Model.Gem.Ctrl.ctrl (perform Model.Gem.Ctrl.ctrl (Model.Gem.Ctrl.handlers c p) f st name).st) :=
  ⟨by decide +kernel, by decide +kernel, ctrl_allowed,
   fun c p f st name hinv hnf => (active_is_ancestors_flat_nested _ _ (ctrl_flatH c p) f st name hinv hnf).1⟩

/-- the tables these statements are about are well-formed: every name resolves, parents precede children, and the
constructor's `initial=` flag is exactly on `_current_state` -/
theorem shipped_wellformed :
    (resolves ConnSM = true ∧ wfB (ofTable ConnSM) = true ∧ invB (ofTable ConnSM) (initOf ConnSM) = true) ∧
    (resolves CommSM = true ∧ wfB (ofTable CommSM) = true ∧ invB (ofTable CommSM) (initOf CommSM) = true) ∧
    (resolves CtrlSM = true ∧ wfB (ofTable CtrlSM) = true ∧ invB (ofTable CtrlSM) (initOf CtrlSM) = true) :=
  ⟨conn_resolves, comm_resolves, ctrl_resolves⟩

/-- **Events of a performed transition, any forest, no handler requests.**  The log grows by `leave` of the states `xs`,
`enter` of the states `ys`, `called name`, where
* no state occurs twice in `xs` or in `ys` (no event fires more than once),
* every state the property calls exited (`Spec.SM.exited`: the source and its ancestors that are not ancestors-or-self of the
  destination) is in `xs`, every entered state in `ys`,
* if source and destination have the same depth, `xs` and `ys` are exactly the exited and the entered states,
* in general (the engine compares parents in lock step, it does not compute a least common ancestor) anything in `xs` beyond
  the exited states is a common ancestor of source and destination and is in `ys` as well: it is left and entered again. -/
theorem events_exactly_once (m : MDef) (wf : WF m) (hh : Handlers) (hq : Quiet hh) (f : Nat) (st st' : St) (name : String)
    (h : perform m hh f st name = .ok st') :
    ∃ (srcs : List Nat) (dst : Nat) (xs ys : List Nat), lookup m name = some (srcs, dst) ∧
      st'.log = st.log ++ xs.map .leave ++ ys.map .enter ++ [.called name] ∧
      xs.Nodup ∧ ys.Nodup ∧
      (∀ x, x ∈ exited m st.cur dst → x ∈ xs) ∧ (∀ x, x ∈ entered m st.cur dst → x ∈ ys) ∧
      (depth m st.cur = depth m dst → (∀ x, x ∈ xs ↔ x ∈ exited m st.cur dst) ∧ (∀ x, x ∈ ys ↔ x ∈ entered m st.cur dst)) ∧
      (∀ x, x ∈ xs → x ∉ exited m st.cur dst → x ∈ chain m st.cur ∧ x ∈ chain m dst ∧ x ∈ ys) := by
  obtain ⟨srcs, dst, xs, ys, hl, _, hw1, hw2, rfl⟩ := perform_quiet_ok hq h
  refine ⟨srcs, dst, xs, ys, hl, rfl, walk_nodup wf hw1, walk_nodup wf hw2,
    walk_covers wf hw1 hw2, walk_covers wf hw2 hw1,
    fun hd => ⟨walk_exact wf hw1 hw2 hd, walk_exact wf hw2 hw1 hd.symm⟩, walk_extra wf hw1 hw2⟩

/-- what the lock-step comparison does for unequal depths: 2 (depth 3) → 3 (depth 2) under the common root 0 leaves and
re-enters the root, although only 2 and 1 are exited and only 3 is entered -/
theorem events_unequal_depth :
    (perform forest5 noHandlers 16 (canon forest5 2) "t").st.log
      = [.leave 2, .leave 1, .leave 0, .enter 3, .enter 0, .called "t"] ∧
    expectedLog forest5 2 3 "t" = [.leave 2, .leave 1, .enter 3, .called "t"] := by decide +kernel

/-! Witnesses of the three open findings (`c18-nested-hier`, `c18-handler-raises`, `c18-race`). -/

def hier3 : MDef where
  n := 3
  parent := fun s => match s with | 1 => some 0 | _ => none
  trans := [("go", [2], 1), ("back", [1], 2)]

def hier3H : Handlers := fun ev => match ev with | .enter 1 => [fun _ => ["back"]] | _ => []

/-- **Witness (`c18-nested-hier`, F-22): nested request in a hierarchical machine.**  `go` enters the child, whose enter handler performs
`back`; when the handler returns, `State.enter` continues with the parent: the machine is in the root state `2` but the
parent `0` reports itself active.  No exception is raised. -/
theorem witness_nested_hier :
    let o := perform hier3 hier3H 32 (canon hier3 2) "go"
    o.err = none ∧ o.st.cur = 2 ∧ flags hier3 o.st = [true, false, true] ∧ invB hier3 o.st = false := by decide +kernel

def hier4 : MDef where
  n := 4
  parent := fun s => match s with | 1 => some 0 | 2 => some 1 | _ => none
  trans := [("go", [3], 2), ("back", [2], 3)]

def hier4H : Handlers := fun ev => match ev with | .enter 1 => [fun _ => ["back"]] | _ => []

/-- the same from a *parent's* enter handler when the parent has a parent itself (handler on `enter 1`) -/
theorem witness_nested_hier_parent :
    let o := perform hier4 hier4H 32 (canon hier4 3) "go"
    o.err = none ∧ o.st.cur = 3 ∧ flags hier4 o.st = [true, false, false, true] ∧ invB hier4 o.st = false := by decide +kernel

/-- the child's enter handler raises (a plain exception, or a request that is refused: for the engine, which has no `except`, a
handler requesting a transition that does not exist) -/
def hier3R : Handlers := fun ev => match ev with | .enter 1 => [fun _ => ["!"]] | _ => []

/-- **Witness (`c18-handler-raises`): a handler that raises half-way through a transition of a hierarchical machine.**
`go` enters the child `1` from outside its parent `0`; the child's enter handler raises; `State.enter` never reaches
`self.parent.enter(...)`: the exception propagates, the machine is in the child, the child reports active, the parent does not.
(In a flat machine the flags stay exact whatever an enter or called handler raises: `active_is_ancestors_flat_nested`.) -/
theorem witness_handler_raises :
    let o := perform hier3 hier3R 32 (canon hier3 2) "go"
    o.err = some .unknown ∧ o.st.cur = 1 ∧ flags hier3 o.st = [false, true, false] ∧ invB hier3 o.st = false := by decide +kernel

def hier3L : Handlers := fun ev => match ev with | .leave 0 => [fun _ => ["!"]] | _ => []

/-- the same on the way out: the child's leave succeeds, the parent's leave handler raises — the machine is still "in" the child,
which no longer reports active, while the parent does -/
theorem witness_handler_raises_leave :
    let o := perform hier3 hier3L 32 (canon hier3 1) "back"
    o.err = some .unknown ∧ o.st.cur = 1 ∧ flags hier3 o.st = [true, false, false] ∧ invB hier3 o.st = false := by decide +kernel

def flat3 : MDef where
  n := 3
  parent := fun _ => none
  trans := [("t", [0], 1), ("u", [0], 2)]

def flat3H : Handlers := fun ev => match ev with
  | .leave 0 => [fun st => if st.log.length ≤ 1 then ["u"] else []]
  | _ => []

/-- why (b) excludes *leave* handlers: `old_state` is read after `leave` returned, so the transition performed by
a leave handler is overwritten — two states stay active in a flat machine -/
theorem witness_leave_handler :
    let o := perform flat3 flat3H 32 (canon flat3 0) "t"
    o.err = none ∧ o.st.cur = 1 ∧ flags flat3 o.st = [false, true, true] ∧ invB flat3 o.st = false := by decide +kernel

def raceSchedule : List Nat := [0, 0, 1, 1, 0, 0, 1, 1, 0, 0, 1, 1, 0, 1, 0, 1]

/-- **Witness (`c18-race`, F-23): no mutual exclusion.**  Connection machine in CONNECTED_NOT_SELECTED, thread 0 calls `select()`,
thread 1 calls `disconnect()`.  With the line schedule `raceSchedule` both source checks pass, both calls return normally, the machine
ends in NOT_CONNECTED with CONNECTED_SELECTED still reporting active, `leave CONNECTED_NOT_SELECTED` has fired twice — a
result no sequential order of the two calls produces (in both orders the flags are exact; in one `select` is rejected). -/
theorem witness_race :
    let m := ofTable ConnSM
    let s := runFree (prog m noHandlers 8) (two (canon m 2) "select" "disconnect") raceSchedule
    result (s.loc 0) = some none ∧ result (s.loc 1) = some none ∧
    s.sh.cur = 0 ∧ flags m s.sh = [true, false, false, true] ∧ invB m s.sh = false ∧
    (s.sh.log.filter (· == .leave 2)).length = 2 ∧
    invB m (perform m noHandlers 9 (perform m noHandlers 9 (canon m 2) "select").st "disconnect").st = true ∧
    invB m (perform m noHandlers 9 (perform m noHandlers 9 (canon m 2) "disconnect").st "select").st = true := by
  decide +kernel

/-- **Serialisability with a critical section**, generic: any deterministic thread program, any number of threads, any
schedule; one lock held from a thread's first atomic step to its last.  Once all threads have finished the shared state is
that of running them one after the other in some order listing each thread exactly once. -/
theorem serialised_generic {σ τ : Type} (P : Prog σ τ) (sh0 : σ) (init : Nat → τ) (sched : List Nat)
    (hfin : ∀ i, P.done ((runLocked P ⟨sh0, init, none⟩ sched).loc i) = true) :
    ∃ order, order.Nodup ∧ (∀ i, i ∈ order ↔ P.done (init i) = false) ∧
      Serial P init sh0 order (runLocked P ⟨sh0, init, none⟩ sched).sh :=
  locked_serial P sh0 init sched hfin

/-- **Two concurrent `_perform_transition` calls under a lock**, any machine, any handlers, any line-level schedule: once both
have returned, the machine is in the state of `a; b` or of `b; a` performed sequentially (`Model.SM.perform`, which the
theorems above are about).  The same schedule without the lock is `witness_race`. -/
theorem serialised (m : MDef) (h : Handlers) (f : Nat) (st : St) (a b : String) (sched : List Nat)
    (hfin : ∀ i, isDone ((runLocked (prog m h f) (two st a b) sched).loc i) = true) :
    (runLocked (prog m h f) (two st a b) sched).sh = (perform m h (f+1) (perform m h (f+1) st a).st b).st ∨
    (runLocked (prog m h f) (two st a b) sched).sh = (perform m h (f+1) (perform m h (f+1) st b).st a).st :=
  two_locked_serial m h f st a b sched hfin

/-- non-vacuity: under the lock the race schedule finishes both calls, and gives the outcome of `select; disconnect` -/
example :
    let m := ofTable ConnSM
    let s := runLocked (prog m noHandlers 8) (two (canon m 2) "select" "disconnect") (raceSchedule ++ raceSchedule)
    isDone (s.loc 0) = true ∧ isDone (s.loc 1) = true ∧ s.sh.cur = 0 ∧ invB m s.sh = true := by decide +kernel

end SecsModel.Props.C18
