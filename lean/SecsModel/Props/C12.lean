import SecsModel.Proofs.GemEv
/-!
# C12 — Event-report configuration stays consistent and transactional under any history

`Model.Gem.Ev` is the hand model of `collection_event_capability.py`; `Spec.EventReports` is the declarative E5 effect.
-/
namespace SecsModel.Props.C12
open SecsModel SecsModel.Model.Gem SecsModel.Model.Gem.Ev SecsModel.Spec.EventReports
open SecsModel.Proofs.Gem SecsModel.Proofs.Gem.Ev

/-- **S2F33 refused (DRACK ≠ 0) or aborted ⇒ the whole state is unchanged.** -/
theorem s2f33_refused_unchanged (cfg : Cfg) (s : St) (data : List RptReq) (h : (s2f33 cfg s data).2 ≠ .code 0) :
    (s2f33 cfg s data).1 = s :=
  (s2f33_checked cfg s data).unchanged rfl h

/-- **S2F35 refused (LRACK ≠ 0) or aborted ⇒ the whole state is unchanged.** -/
theorem s2f35_refused_unchanged (cfg : Cfg) (s : St) (data : List LinkReq) (h : (s2f35 cfg s data).2 ≠ .code 0) :
    (s2f35 cfg s data).1 = s :=
  (s2f35_checked cfg s data).unchanged rfl h

/-- **S2F33 accepted ⇒ exactly the declarative effect** (delete-all, delete-one with unlinking everywhere, define), and
nothing but the configuration changes. -/
theorem s2f33_accepted_effect (cfg : Cfg) (s : St) (data : List RptReq) (h : (s2f33 cfg s data).2 = .code 0) :
    (s2f33 cfg s data).1 = { s with conf := s2f33Effect s.conf data } :=
  congrArg Prod.fst ((s2f33_checked cfg s data).accepted h).2

/-- **S2F35 accepted ⇒ exactly the declarative effect** (per entry: unlink the CEID, or link the reports after those already linked,
keeping the enable state; a new link starts disabled), and nothing but the configuration changes. -/
theorem s2f35_accepted_effect (cfg : Cfg) (s : St) (data : List LinkReq) (h : (s2f35 cfg s data).2 = .code 0) :
    (s2f35 cfg s data).1 = { s with conf := s2f35Effect s.conf data } :=
  congrArg Prod.fst ((s2f35_checked cfg s data).accepted h).2

/-- **DRACK codes.**  0 only when no entry re-defines an existing report and every VID exists; 3 only when some entry
re-defines an existing report; 4 only when some VID is unknown; no other code. -/
theorem drack_codes (cfg : Cfg) (s : St) (data : List RptReq) (n : Nat) (h : (s2f33 cfg s data).2 = .code n) :
    (n = 0 ∧ ∀ r ∈ data, ¬ redefines s.conf r ∧ ¬ unknownVid cfg.known r)
    ∨ (n = 3 ∧ ∃ r ∈ data, redefines s.conf r)
    ∨ (n = 4 ∧ ∃ r ∈ data, unknownVid cfg.known r) := by
  rcases pre33_verdict cfg s.conf data 0 n ((s2f33_checked cfg s data).pre_of_code rfl h) with ⟨h0, hz⟩ | ⟨_, r, hr, ⟨h3, hq⟩ | ⟨h4, hq⟩⟩
  · exact .inl ⟨h0, hz⟩
  · exact .inr (.inl ⟨h3, r, hr, hq⟩)
  · exact .inr (.inr ⟨h4, r, hr, hq⟩)

/-- **LRACK codes.**  0 only when every CEID exists and every RPTID is defined; 3 only when some RPTID is already linked to its
CEID; 4 only when some CEID is unknown; 5 only when some RPTID is not defined; no other code. -/
theorem lrack_codes (cfg : Cfg) (s : St) (data : List LinkReq) (n : Nat) (h : (s2f35 cfg s data).2 = .code n) :
    (n = 0 ∧ ∀ e ∈ data, ¬ unknownCeid cfg.ceids e ∧ ¬ unknownRptid s.conf e)
    ∨ (n = 3 ∧ ∃ e ∈ data, alreadyLinked s.conf e)
    ∨ (n = 4 ∧ ∃ e ∈ data, unknownCeid cfg.ceids e)
    ∨ (n = 5 ∧ ∃ e ∈ data, unknownRptid s.conf e) := by
  rcases pre35_verdict cfg s.conf data 0 n ((s2f35_checked cfg s data).pre_of_code rfl h) with ⟨h0, hz⟩ | ⟨_, e, he, ⟨h3, hq⟩ | ⟨h4, hq⟩ | ⟨h5, hq⟩⟩
  · exact .inl ⟨h0, fun e he => (hz e he).2⟩
  · exact .inr (.inl ⟨h3, e, he, hq⟩)
  · exact .inr (.inr (.inl ⟨h4, e, he, hq⟩))
  · exact .inr (.inr (.inr ⟨h5, e, he, hq⟩))

theorem step_inv (cfg : Cfg) (s : St) (op : Op) (h : Inv cfg s) : Inv cfg (step cfg s op).1 := by
  cases op with
  | s2f33 data =>
    exact (s2f33_checked cfg s data).keeps h fun hp =>
      inv_s2f33 h data fun r hr => ((pre33_zero hp).2 r hr).2
  | s2f35 data =>
    exact (s2f35_checked cfg s data).keeps h fun hp =>
      inv_s2f35 h data fun e he => ((pre35_zero hp).2 e he).2.2
  | s2f37 ceed cs => exact inv_s2f37 h ceed cs
  | s6f15 c => exact h
  | trigger cs => exact h
  | setSv v x => exact h
  | setDv v x => exact h

theorem run_inv (cfg : Cfg) : ∀ (ops : List Op) (s : St), Inv cfg s → Inv cfg (run cfg s ops)
  | [], _, h => h
  | op :: ops, s, h => run_inv cfg ops _ (step_inv cfg s op h)

theorem init_inv (cfg : Cfg) : Inv cfg St.init :=
  ⟨by intro e he; simp [St.init] at he, by intro e he; simp [St.init] at he⟩

/-- **Referential integrity after every history** (S2F33, S2F35, S2F37, S6F15, triggers, value updates in any order, with
any ids — duplicates, unknown, multi-valued, empty lists): every report linked to a collection event is defined, and
every variable of a defined report exists. -/
theorem integrity (cfg : Cfg) (ops : List Op) :
    Integrity (run cfg St.init ops).conf ∧ VidsKnown cfg (run cfg St.init ops).conf :=
  run_inv cfg ops St.init (init_inv cfg)

/-- what the property demands of the report list of an event linked to `rs`: exactly the linked reports, in link order, each
carrying exactly the current values of its variables in definition order -/
def WellFormed (cfg : Cfg) (s : St) (rs : List Id) (rpts : List (Id × List Val)) : Prop :=
  Forall2 (fun r p => p.1 = r ∧ ∃ vars, s.conf.reports.lookup r = some vars ∧
    Forall2 (fun v x => value? cfg s v = some x) vars p.2) rs rpts

theorem build_ok (cfg : Cfg) (s : St) (hv : VidsKnown cfg s.conf) : ∀ (rs : List Id), (∀ r ∈ rs, r ∈ s.conf.reports.keys) →
    ∃ rpts, buildReports cfg s rs = .ok rpts ∧ WellFormed cfg s rs rpts
  | [], _ => ⟨[], rfl, Forall2.nil⟩
  | r :: rs, h => by
    obtain ⟨vars, hl⟩ := AList.exists_of_mem_keys (h r List.mem_cons_self)
    obtain ⟨rest, hr, hw⟩ := build_ok cfg s hv rs (fun x hx => h x (List.mem_cons_of_mem _ hx))
    refine ⟨(r, vars.filterMap (value? cfg s)) :: rest, by simp [buildReports, hl, hr], ?_⟩
    refine Forall2.cons ⟨rfl, vars, hl, ?_⟩ hw
    apply filterMap_forall2
    intro v hvm
    exact value_of_known cfg s v (hv _ (AList.lookup_some_mem hl) v hvm)

/-- **S6F15 after any history.**  For a single-valued CEID the answer is always an S6F16 (never an abort) echoing the CEID;
when the event is linked and enabled it contains exactly the linked reports in link order with the current values of their
variables; otherwise the report list is empty. -/
theorem s6f15_wellformed (cfg : Cfg) (ops : List Op) (c : Id) (hc : c.scalar = true) :
    (∀ rs, (run cfg St.init ops).conf.links.lookup c = some (rs, true) →
        ∃ rpts, s6f15 cfg (run cfg St.init ops) c = .report c rpts ∧ WellFormed cfg (run cfg St.init ops) rs rpts)
    ∧ ((∀ rs, (run cfg St.init ops).conf.links.lookup c ≠ some (rs, true)) →
        s6f15 cfg (run cfg St.init ops) c = .report c []) := by
  have hinv := integrity cfg ops
  generalize run cfg St.init ops = s at hinv ⊢
  constructor
  · intro rs hl
    obtain ⟨rpts, hb, hw⟩ := build_ok cfg s hinv.2 rs (hinv.1 _ (AList.lookup_some_mem hl))
    exact ⟨rpts, by simp [s6f15, hc, hl, hb], hw⟩
  · intro hn
    unfold s6f15
    rw [if_pos hc]
    split
    · rename_i rs hl; exact absurd hl (hn rs)
    · rfl

theorem trigger_ok (cfg : Cfg) (s : St) (hinv : Inv cfg s) (cs : List Id) :
    ∃ sent, trigger cfg s cs = (sent, false) ∧
      Forall2 (fun c m => m.1 = c ∧ ∃ rs, s.conf.links.lookup c = some (rs, true) ∧ WellFormed cfg s rs m.2)
        (cs.filter (reportable s)) sent := by
  induction cs with
  | nil => exact ⟨[], rfl, Forall2.nil⟩
  | cons c cs ih =>
    obtain ⟨sent, hs, hf⟩ := ih
    match hl : s.conf.links.lookup c with
    | some (rs, true) =>
      have hr : reportable s c = true := by simp [reportable, hl]
      obtain ⟨rpts, hb, hw⟩ := build_ok cfg s hinv.2 rs (hinv.1 _ (AList.lookup_some_mem hl))
      refine ⟨(c, rpts) :: sent, by simp [trigger, hl, hb, hs], ?_⟩
      rw [List.filter_cons, hr]
      exact Forall2.cons ⟨rfl, rs, hl, hw⟩ hf
    | none | some (_, false) =>
      have hr : reportable s c = false := by simp [reportable, hl]
      exact ⟨sent, by simp [trigger, hl, hs], by simpa [List.filter_cons, hr] using hf⟩

/-- **Trigger after any history, any list of CEIDs** (repeats, unknown, unlinked and disabled ones in any position): the
sender never dies, and it sends exactly one S6F11 per linked-and-enabled CEID of the list, in list order, each carrying
exactly the linked reports in link order with the current values; the other CEIDs send nothing and do not stop the loop. -/
theorem trigger_wellformed (cfg : Cfg) (ops : List Op) (cs : List Id) :
    ∃ sent, trigger cfg (run cfg St.init ops) cs = (sent, false) ∧
      Forall2 (fun c m => m.1 = c ∧ ∃ rs, (run cfg St.init ops).conf.links.lookup c = some (rs, true) ∧
          WellFormed cfg (run cfg St.init ops) rs m.2)
        (cs.filter (reportable (run cfg St.init ops))) sent :=
  trigger_ok cfg _ (integrity cfg ops) cs

def cfg0 : Cfg := { ceids := [.nums [1], .text "ce"], svs := [(.nums [30], .cell), (.nums [1003], .eventsEnabled)], dvs := [.text "dv"] }

/-- the history of finding F-16 (define R1; link C1 ← [R1, R1]; enable; delete R1; S6F15 C1) on the repaired code:
the delete unlinks both occurrences and the CEID, S6F15 answers an empty well-formed report -/
def histF16 : List Op :=
  [.s2f33 [⟨.nums [1], [.nums [30]]⟩], .s2f35 [⟨.nums [1], [.nums [1], .nums [1]]⟩], .s2f37 true [.nums [1]],
   .s2f33 [⟨.nums [1], []⟩]]

example : (run cfg0 St.init histF16).conf = ⟨[], []⟩ := by decide +kernel
example : s6f15 cfg0 (run cfg0 St.init histF16) (.nums [1]) = .report (.nums [1]) [] := by decide +kernel

/-- a history whose S6F16 is not empty: the hypotheses of `s6f15_wellformed` (first part) are satisfiable -/
example : s6f15 cfg0 (run cfg0 St.init
    [.s2f33 [⟨.nums [1], [.nums [30], .nums [1003]]⟩, ⟨.text "r", [.text "dv"]⟩], .s2f35 [⟨.text "ce", [.text "r", .nums [1], .text "r"]⟩],
     .setSv (.nums [30]) (.nums [7]), .s2f37 true []]) (.text "ce")
    = .report (.text "ce") [(.text "r", [.nums [0]]), (.nums [1], [.nums [7], .ids [.text "ce"]]), (.text "r", [.nums [0]])] := by
  decide +kernel

/-- one trigger call with a disabled, an unknown and a repeated CEID around two enabled ones: both are sent, in order -/
example : trigger cfg0 (run cfg0 St.init
    [.s2f33 [⟨.nums [1], [.nums [30]]⟩], .s2f35 [⟨.text "ce", [.nums [1]]⟩, ⟨.nums [1], [.nums [1], .nums [1]]⟩], .s2f37 true [.text "ce"]])
    [.nums [1], .text "ce", .nums [9], .text "ce"]
    = ([(.text "ce", [(.nums [1], [.nums [0]])]), (.text "ce", [(.nums [1], [.nums [0]])])], false) := by decide +kernel

/-- refused requests exist for every code, and they are not aborts -/
example : (s2f33 cfg0 St.init [⟨.nums [1], [.nums [99]]⟩]).2 = .code 4 := by decide +kernel
example : (s2f33 cfg0 (run cfg0 St.init [.s2f33 [⟨.nums [1], [.nums [30]]⟩]]) [⟨.nums [1], [.nums [30]]⟩]).2 = .code 3 := by decide +kernel
example : (s2f35 cfg0 St.init [⟨.nums [1], [.nums [1]]⟩]).2 = .code 5 := by decide +kernel
example : (s2f35 cfg0 St.init [⟨.nums [9], []⟩]).2 = .code 4 := by decide +kernel
example : (s2f35 cfg0 (run cfg0 St.init [.s2f33 [⟨.nums [1], [.nums [30]]⟩], .s2f35 [⟨.nums [1], [.nums [1]]⟩]]) [⟨.nums [1], [.nums [1]]⟩]).2 = .code 3 := by
  decide +kernel
example : (s2f33 cfg0 St.init [⟨.nums [], [.nums [30]]⟩]).2 = .abort := by decide +kernel

/-- `unlinkReport` with `list.remove` applied once, as the code before the fix did -/
def unlinkOnce (r : Id) (e : Id × (List Id × Bool)) : Option (Id × (List Id × Bool)) :=
  if r ∈ e.2.1 then
    let rs' := e.2.1.erase r
    if rs'.isEmpty then none else some (e.1, (rs', e.2.2))
  else some e

def apply33Once (c : Config) (r : RptReq) : Config :=
  if r.vids.isEmpty then
    { links := c.links.filterMap (unlinkOnce r.rptid),
      reports := if c.reports.contains r.rptid then c.reports.erase r.rptid else c.reports }
  else { c with reports := c.reports.set r.rptid r.vids }

/-- **Witness (why remove-all matters).**  With `list.remove` applied once — the code before the fix — the same history
leaves a dangling link: the invariant fails and S6F15 aborts.  `apply33Once` differs from `apply33` only in `unlinkOnce`. -/
theorem witness_single_remove_dangles :
    let s := run cfg0 St.init (histF16.take 3)
    let s' : St := { s with conf := apply33Once s.conf ⟨.nums [1], []⟩ }
    ¬ Integrity s'.conf ∧ s6f15 cfg0 s' (.nums [1]) = .ack .abort := by
  refine ⟨?_, by decide +kernel⟩
  intro h
  have := h (.nums [1], ([.nums [1]], true)) (by decide +kernel) (.nums [1]) (by decide)
  revert this
  decide +kernel

end SecsModel.Props.C12
