import SecsModel.Proofs.HsmsRx
/-!
# C04 — HSMS frames are bit-exact and reassembled independently of TCP segmentation

The header codec, the SType enum, the block format and the statement orders of the hand-overs are generated from the Python source
(`Gen.HsmsHeader`, `Gen.HsmsSType`, `Gen.BlockFmt`, `Gen.RxOrder`); `HsmsBlock.encode/decode`, the receive loop and the threads of a
hand-over are the hand model `Model.Rx`.
-/
namespace SecsModel.Props.C04
open SecsModel SecsModel.Gen SecsModel.Model.Rx SecsModel.Proofs.HsmsHdr SecsModel.Proofs.HsmsRx

/-- the SType enum extracted from `hsms/header.py` is E37's list (8 and 10..255 are not STypes) -/
theorem stype_table : HsmsSType.values = Spec.E37.stypes.map (fun (n : Nat) => (n : Int)) := stypes_eq

/-- `HsmsBlock.length_format = "L"` (4 bytes), no checksum, one block per message, 10-byte header -/
theorem block_format : BlockFmt.hsmsLengthWidth = 4 ∧ BlockFmt.hsmsChecksumWidth = 0 ∧ BlockFmt.hsmsBlockSize = -1
    ∧ HsmsHeader.length = 10 := by decide

/-- **Header layout and round trip, all in-range field values.**  The generated `HsmsHeader.encode` produces exactly the ten E37 header
bytes (session id, W-bit|stream, function, PType, SType, system bytes) and the generated `decode` recovers every field. -/
theorem header_roundtrip (h : HsmsHeader) (hr : InRange h) :
    ∃ bs, h.encode = .ok bs ∧ bs = Spec.E37.headerBytes (toSpec h) ∧ bs.length = 10 ∧ HsmsHeader.decode bs = .ok h :=
  ⟨_, encode_layout h hr, rfl, Spec.E37.headerBytes_length _, decode_layout h hr⟩

/-- the same, read from the specification side: every E37 header in its ranges is produced and recovered -/
theorem header_spec_roundtrip (h : Spec.E37.Hdr) (hr : h.InRange) :
    (ofSpec h).encode = .ok (Spec.E37.headerBytes h) ∧ HsmsHeader.decode (Spec.E37.headerBytes h) = .ok (ofSpec h) :=
  ⟨encode_ofSpec h hr, decode_ofSpec h hr⟩

/-- non-vacuity: concrete in-range headers at the upper ends of every field -/
example : InRange ⟨0xFFFFFFFF, 0xFFFF, 127, 255, true, 255, 9⟩ := by decide
example : (⟨0x7FFF, true, 127, 255, 0, 0, 0xFFFFFFFF⟩ : Spec.E37.Hdr).InRange := by decide
example : HsmsHeader.encode ⟨0x01020304, 0x7FFF, 1, 13, true, 0, 0⟩ = .ok [0x7F, 0xFF, 0x81, 13, 0, 0, 1, 2, 3, 4] := by decide +kernel

/-- an SType outside E37's list is refused by `decode` (`HsmsSType(res[4])` raises `ValueError`), whatever the other bytes are -/
theorem header_invalid_stype (sy dv st fn pt ty : Nat) (w : Bool)
    (hsy : sy < 2^32) (hdv : dv < 2^16) (hst : st < 2^7) (hfn : fn < 2^8) (hpt : pt < 2^8) (hty : ty < 2^8)
    (hbad : ty ∉ Spec.E37.stypes) :
    HsmsHeader.decode (specBytes sy dv st fn pt ty w) = .error .valueError := by
  rw [decode_spec sy dv st fn pt ty w hsy hdv hst hfn hpt hty, if_neg fun hv => hbad ((valid_nat ty).mp hv)]

example : (8 : Nat) ∉ Spec.E37.stypes ∧ (10 : Nat) ∉ Spec.E37.stypes ∧ (255 : Nat) ∉ Spec.E37.stypes := by decide

/-- **Header decode is injective onto canonical bytes.**  For EVERY ten bytes: if the generated `HsmsHeader.decode` returns a
header, the generated `encode` of that header gives exactly those ten bytes back. -/
theorem header_decode_canonical (bs : Bytes) (hl : bs.length = 10) (hb : AllBytes bs) (h : HsmsHeader) (hd : HsmsHeader.decode bs = .ok h) :
    h.encode = .ok bs := by
  obtain ⟨sy, dv, st, fn, pt, ty, w, hsy, hdv, hst, hfn, hpt, hty, rfl⟩ := exists_specBytes bs hl hb
  rw [decode_spec sy dv st fn pt ty w hsy hdv hst hfn hpt hty] at hd
  split at hd
  · cases hd
    exact encode_nat sy dv st fn pt ty w hsy hdv hst hfn hpt hty
  · cases hd

/-- **Frame exactness, all in-range headers and all body lengths below 2³²−10.**  `HsmsBlock.encode` is the E37 frame:
4-byte big-endian length = 10 + body length, the ten header bytes, the body. -/
theorem frame_exact (b : Block) (hv : Valid b) :
    b.encode = .ok (Spec.E37.frame (toSpec b.header) b.data)
    ∧ (Spec.E37.frame (toSpec b.header) b.data).length = 14 + b.data.length
    ∧ (Spec.E37.frame (toSpec b.header) b.data).take 4 = be 4 (10 + b.data.length)
    ∧ ofBe ((Spec.E37.frame (toSpec b.header) b.data).take 4) = 10 + b.data.length := by
  refine ⟨encode_exact b hv, Spec.E37.frame_length _ _, Spec.E37.frame_take4 _ _, ?_⟩
  rw [Spec.E37.frame_take4, ofBe_be_of_lt _ _ hv.size]

/-- **Frame round trip.**  Decoding the encoded block gives back the identical header fields and body. -/
theorem frame_roundtrip (b : Block) (hv : Valid b) : ∃ fr, b.encode = .ok fr ∧ Block.decode fr = .ok b :=
  ⟨_, encode_exact b hv, decode_frame b hv⟩

/-- non-vacuity: a valid data message S1F13 W with a 3-byte body, and its frame -/
def sample : Block := ⟨⟨0x01020304, 0, 1, 13, true, 0, 0⟩, [1, 2, 3]⟩
example : Valid sample := ⟨by decide, by decide⟩
example : sample.encode = .ok [0, 0, 0, 13, 0, 0, 0x81, 13, 0, 0, 1, 2, 3, 4, 1, 2, 3] := by decide +kernel

/-- `HsmsBlock.decode` with the generated widths (4-byte length, 10-byte header) substituted -/
theorem decode_eq_lit (raw : Bytes) : Block.decode raw =
    (if raw.length < 4 then .error .structError else
     if ofBe (raw.take 4) < 10 then .error .structError else
     if raw.length ≠ 4 + 10 + (ofBe (raw.take 4) - 10) then .error .structError else
     match HsmsHeader.decode ((raw.drop 4).take 10) with
     | .error e => .error e
     | .ok h => .ok ⟨h, (raw.drop (4 + 10)).take (ofBe (raw.take 4) - 10)⟩) := decode_eq raw

/-- **The HSMS decoder accepts only canonical frames.**  For EVERY byte string: if `HsmsBlock.decode` returns a block, then
`HsmsBlock.encode` of that block is exactly that byte string — no frame with a non-canonical length field or header bytes is
ever accepted as a block (converse of `frame_roundtrip`). -/
theorem frame_decode_canonical (raw : Bytes) (araw : AllBytes raw) (b : Block) (hd : Block.decode raw = .ok b) :
    b.encode = .ok raw := by
  obtain ⟨hb, hl, ahb, hh, hs, rfl⟩ := decode_inv raw araw b hd
  exact encode_of_header b hb (header_decode_canonical hb hl ahb _ hh) hl hs

theorem frame_decode_injective (r1 r2 : Bytes) (a1 : AllBytes r1) (a2 : AllBytes r2) (b : Block)
    (h1 : Block.decode r1 = .ok b) (h2 : Block.decode r2 = .ok b) : r1 = r2 :=
  Except.ok.inj ((frame_decode_canonical r1 a1 b h1).symm.trans (frame_decode_canonical r2 a2 b h2))

/-- **Segmentation, all frame sequences and all partitions.**  However the concatenated byte stream of any sequence of valid blocks is cut
into segments (single bytes, several frames per segment, cuts inside the length field or header, empty segments), feeding the segments
one after the other delivers exactly those blocks, in order, none lost, duplicated or merged; the receive buffer ends empty and no run of the
loop was ended by an exception. -/
theorem segmentation (bs : List Block) (hv : ∀ b ∈ bs, Valid b) (chunks : List Bytes) (hc : chunks.flatten = wire bs) :
    chunks.foldl feed Rx.init = ⟨[], bs, 0⟩ := by
  rw [(foldl_feed_prefix bs hv _ [] (List.append_nil _) chunks hc).1, extract_wire_nil bs hv]

/-- **Prefix monotonicity.**  After any byte prefix `p` of the stream, cut in any way, what has been delivered is a prefix of the blocks
sent and is the same for every way of cutting `p` (it is what one run over `p` delivers); nothing delivered is ever taken back. -/
theorem prefix_monotone (bs : List Block) (hv : ∀ b ∈ bs, Valid b) (p q : Bytes) (hpq : p ++ q = wire bs)
    (chunks : List Bytes) (hc : chunks.flatten = p) :
    (chunks.foldl feed Rx.init).delivered = (extract p).frames
    ∧ (chunks.foldl feed Rx.init).delivered <+: bs
    ∧ (chunks.foldl feed Rx.init).aborts = 0 := by
  obtain ⟨hf, hp⟩ := foldl_feed_prefix bs hv p q hpq chunks hc
  rw [hf]
  exact ⟨rfl, hp, rfl⟩

/-- in particular after the first `k` segments of any segmentation of the whole stream -/
theorem prefix_monotone_chunks (bs : List Block) (hv : ∀ b ∈ bs, Valid b) (chunks : List Bytes) (hc : chunks.flatten = wire bs) (k : Nat) :
    ((chunks.take k).foldl feed Rx.init).delivered <+: bs ∧ ((chunks.take k).foldl feed Rx.init).aborts = 0 := by
  have hsplit : (chunks.take k).flatten ++ (chunks.drop k).flatten = wire bs := by
    rw [← List.flatten_append, List.take_append_drop, hc]
  have := prefix_monotone bs hv _ _ hsplit (chunks.take k) rfl
  exact ⟨this.2.1, this.2.2⟩

/-- **Independence of segmentation for arbitrary streams** (unknown bodies, a trailing partial frame): two segmentations of the same bytes
deliver the same blocks and leave the same buffer, provided the run over the whole stream is not ended by a decode exception (`length < 10`
or an SType outside the enum). -/
theorem segmentation_independent (c1 c2 : List Bytes) (h : c1.flatten = c2.flatten) (hna : (extract c1.flatten).aborted = false) :
    c1.foldl feed Rx.init = c2.foldl feed Rx.init := by
  rw [foldl_feed c1 Rx.init extract_nil hna, foldl_feed c2 Rx.init extract_nil (h ▸ hna), h]

/-- a Linktest.req -/
def sample2 : Block := ⟨⟨7, 0xFFFF, 0, 0, false, 0, 5⟩, []⟩
/-- non-vacuity: the two blocks, cut inside the first length field, inside the second header, and with an empty segment; and byte by byte -/
example : wire [sample, sample2] =
    [0, 0, 0, 13, 0, 0, 0x81, 13, 0, 0, 1, 2, 3, 4, 1, 2, 3] ++ [0, 0, 0, 10, 0xFF, 0xFF, 0, 0, 0, 5, 0, 0, 0, 7] := by decide +kernel
example : [[0, 0], [0, 13, 0, 0, 0x81, 13, 0, 0, 1, 2, 3, 4, 1, 2, 3, 0, 0, 0, 10, 0xFF, 0xFF], [], [0, 0, 0, 5, 0, 0, 0, 7]].foldl feed Rx.init
    = ⟨[], [sample, sample2], 0⟩ := by decide +kernel
example : ((wire [sample, sample2]).map (fun x => [x])).foldl feed Rx.init = ⟨[], [sample, sample2], 0⟩ := by decide +kernel
/-- a cut stream leaves the partial frame in the buffer and delivers only the complete one -/
example : [[0, 0, 0, 13, 0, 0, 0x81, 13, 0, 0, 1, 2, 3, 4, 1, 2, 3, 0, 0, 0, 10, 0xFF]].foldl feed Rx.init
    = ⟨[0, 0, 0, 10, 0xFF], [sample], 0⟩ := by decide +kernel
/-- the hypothesis of `segmentation_independent` is not idle: a length field below 10 ends the run by an exception and the frame is dropped -/
example : feed Rx.init [0, 0, 0, 0, 0, 0, 0, 10, 0xFF, 0xFF, 0, 0, 0, 5, 0, 0, 0, 7] = ⟨[0, 0, 0, 10, 0xFF, 0xFF, 0, 0, 0, 5, 0, 0, 0, 7], [], 1⟩ := by
  decide +kernel

open SecsModel.Model.Rx.OnData in
/-- **No lost wake-up, received bytes → receiver thread**, for the statement orders that exist (`Gen.RxOrder.onData` from
`_on_connection_data_received`: append, trigger; `Gen.RxOrder.receiverLoop` from `_receiver_thread_function`: wait, clear, stoptest, target).
By `noLostWakeup_sound` no run of producer and consumer, for any number of segments and any interleaving, reaches a state with an item
nobody has looked at while the consumer sleeps in `wait` with the event clear and no `trigger` coming.  This is what makes `feed` (one
`on_data` event, then one run of the loop) a faithful reading of the threaded code. -/
theorem on_data_no_lost_wakeup : noLostWakeup Gen.RxOrder.onData Gen.RxOrder.receiverLoop = true := by decide +kernel

open SecsModel.Model.Rx.OnData in
/-- **No lost wake-up, decoded blocks → dispatcher thread** (`Gen.RxOrder.queueBlock` from `queue_block`: put, set;
`Gen.RxOrder.dispatcherLoop` from `_dispatcher_thread_function`: wait, clear, stoptest, drain): the last block of a burst is dispatched
without waiting for a later frame. -/
theorem dispatch_no_lost_wakeup : noLostWakeup Gen.RxOrder.queueBlock Gen.RxOrder.dispatcherLoop = true := by decide +kernel

open SecsModel.Model.Rx.OnData in
/-- **witnesses: either reordering loses a wake-up.**  Producer `trigger` before `append`: the consumer wakes, clears, looks at nothing and
sleeps; the item is appended afterwards.  Consumer `clear` after the drain: an item queued between the drain's last look and `clear()` has
its wake-up wiped.  In both final states nothing can move until an unrelated later item arrives. -/
theorem reordered_handover_loses_wakeup :
    noLostWakeup ["trigger", "append"] ["wait", "clear", "stoptest", "target"] = false
    ∧ noLostWakeup ["append", "trigger"] ["wait", "stoptest", "drain", "clear"] = false
    ∧ (∃ s, run ["trigger", "append"] ["wait", "clear", "stoptest", "target"] St.init [.item, .prod, .cons, .cons, .cons, .cons, .prod] = some s
        ∧ lost ["wait", "clear", "stoptest", "target"] s = true)
    ∧ (∃ s, run ["append", "trigger"] ["wait", "stoptest", "drain", "clear"] St.init
          [.item, .prod, .prod, .cons, .cons, .cons, .item, .prod, .prod, .cons] = some s
        ∧ lost ["wait", "stoptest", "drain", "clear"] s = true) := by
  have w1 : ∃ s, run ["trigger", "append"] ["wait", "clear", "stoptest", "target"] St.init [.item, .prod, .cons, .cons, .cons, .cons, .prod] = some s
      ∧ lost ["wait", "clear", "stoptest", "target"] s = true := ⟨{ prog := [], unseen := true, trig := false, pc := 0 }, by decide +kernel⟩
  have w2 : ∃ s, run ["append", "trigger"] ["wait", "stoptest", "drain", "clear"] St.init
        [.item, .prod, .prod, .cons, .cons, .cons, .item, .prod, .prod, .cons] = some s
      ∧ lost ["wait", "stoptest", "drain", "clear"] s = true := ⟨{ prog := [], unseen := true, trig := false, pc := 0 }, by decide +kernel⟩
  exact ⟨noLostWakeup_refuted w1, noLostWakeup_refuted w2, w1, w2⟩

/-- **The dispatch queue is unbounded** (generated fact: `ProtocolDispatcher.__init__` constructs it as `queue.Queue()`), as `Model.Rx` /
`OnData` assume: `queue_block` never blocks.  With a bound its blocking `put` would stop the receiver thread on a full queue — the thread
that also writes the send queue, for which the dispatcher's answering handler waits: both stop and the rest of a burst is never delivered. -/
theorem dispatch_queue_unbounded : Gen.RxOrder.dispatchQueueCtor = "queue.Queue()" := rfl

/-- **`ByteQueue` is only changed under its lock, and `pop(size)` removes exactly `size` bytes** (generated facts): `append`, `pop`,
`pop_byte`, `clear` touch `self._buffer` only inside `with self._buffer_lock:`, and `pop` is `data = buffer[:size]; del buffer[:size];
return data` under that lock — the `buf.take n` / `buf.drop n` of `Model.Rx.extractF`, whatever the connection's thread appends meanwhile. -/
theorem byte_queue_locked :
    Gen.RxOrder.byteQueueLocked = [("append", true), ("pop", true), ("pop_byte", true), ("clear", true)]
    ∧ Gen.RxOrder.popTakesExactlySize = true := ⟨rfl, rfl⟩

end SecsModel.Props.C04
