import SecsModel.Proofs.CodecItem
/-!
# C14 — The Item API agrees with SEMI E5 and with the variables API on every value

`Gen.ItemTypes`, `Gen.ItemHeaderItem` are regenerated from `/repo` on every run; `Model.Item` is the hand model tied by
`tools/harness/c14.py`.
-/
namespace SecsModel.Props.C14
open SecsModel SecsModel.Spec.E5 SecsModel.Model.Var SecsModel.Model.Item
open SecsModel.Proofs.CodecHeader SecsModel.Proofs.CodecVar SecsModel.Proofs.CodecVarDec SecsModel.Proofs.CodecRound SecsModel.Proofs.CodecCanon
  SecsModel.Proofs.CodecItem

/-- **Item header, all lengths**: the translated `Item.encode_item_header` is the E5 header for every length `0 … 0xFFFFFF`
(255/256, 65535/65536, 16777215 included) and a `ValueError` otherwise. -/
theorem header_exact (code : Nat) (hc : code < 64) :
    (∀ len : Nat, Gen.ItemHeaderItem.encode (code : Int) (len : Int) = Spec.E5.header code len)
    ∧ (∀ len : Int, len < 0 → Gen.ItemHeaderItem.encode (code : Int) len = .error .valueError) :=
  ⟨fun len => item_header_exact code len hc, fun len h => item_header_neg _ len h⟩

/-- **Item classes = E5 formats**: the registered classes carry exactly the E5 mnemonics, format codes, widths and ranges;
struct codes and text encodings are those of the variables API.  (Containment both ways and equal length, not `=`: the classes are
registered in another order than the E5 table.) -/
theorem types_match_E5 :
    ((Gen.ItemTypes.table.map itemProj).length = Spec.E5.typeTable.length
      ∧ (∀ x ∈ Gen.ItemTypes.table.map itemProj, x ∈ Spec.E5.typeTable) ∧ (∀ x ∈ Spec.E5.typeTable, x ∈ Gen.ItemTypes.table.map itemProj))
    ∧ (∀ t : Ty, (Model.Item.rowOf t).struct_code = (Model.Var.rowOf t).struct_code
        ∧ codingOf (Model.Item.rowOf t).encoding = codingOf (Model.Var.rowOf t).coding ∧ Model.Item.byHsms t.code = some (.leaf t))
    ∧ Model.Item.byHsms 0 = some .l :=
  ⟨by decide +kernel, fun t => ⟨item_struct t, item_coding t, byHsms_leaf t⟩, byHsms_list⟩

/-- **Both APIs produce identical bytes** — for every value tree, accepted or not (same bytes or the same error). -/
theorem apis_agree (v : Val) : Model.Item.encode v = Model.Var.encode v := Proofs.CodecItem.apis_agree v

/-- **Encode**: every value the variable types accept (`Accepted`) encodes to the E5 byte string of its type. -/
theorem encode_exact (v : Val) (ha : Accepted v) : Model.Item.encode v = Spec.E5.encode v := item_encode_exact v ha

/-- **Decode, then re-encode**: for every byte string the reference decoder accepts (1–3 length bytes regardless of magnitude, any
nesting, finite floats) `Item.decode` returns the item of exactly that value, leaves exactly the bytes after it, and the item
re-encodes to the canonical bytes, which denote the same value. -/
theorem decode_reencode (bs : Bytes) (v : Val) (rest : Bytes) (h : decodeAny bs = some (v, rest)) (hab : AllBytes bs) (hfin : v.Finite) :
    Model.Item.decodeBytes bs = .ok (v, rest)
    ∧ ∃ cs, Model.Item.encode v = .ok cs ∧ Spec.E5.encode v = .ok cs ∧ Valid cs v := by
  obtain ⟨ha, cs, hc, hv⟩ := decoded_valid bs v rest h hab hfin
  exact ⟨item_decode_complete bs v rest h hab hfin, cs, by rw [item_encode_exact v ha, hc], hc, hv⟩

/-- **An item holds the value it was built from**: whatever a leaf constructor accepts (scalar, list, bytes, str, bool), the held
elements are exactly those the input stands for. -/
theorem holds_value (t : Ty) (p : PyVal) (es : List Int) (hab : ∀ bs, p = .bytes bs → AllBytes bs)
    (h : Model.Item.validateLeaf t p = .ok es) : denote t p = some es :=
  Proofs.CodecItem.holds_value t p es hab h

/-- **from_value, integers**: the narrowest unsigned format for `0 ≤ n < 2^64`, the narrowest signed one for `-2^63 ≤ n < 0`,
the value unchanged. -/
theorem from_value_narrowest (n : Int) :
    (0 ≤ n → n < 18446744073709551616 → Model.Item.fromValue (.int n) = .ok (.item (uintFor n) [n]))
    ∧ (n < 0 → -9223372036854775808 ≤ n → Model.Item.fromValue (.int n) = .ok (.item (sintFor n) [n])) :=
  ⟨from_value_uint n, from_value_sint n⟩

/-- what "narrowest" means: the chosen width holds `n` and no narrower one of the same signedness does -/
theorem narrowest_is_narrowest (n : Int) :
    (0 ≤ n → n < 18446744073709551616 → (uintFor n).lo ≤ n ∧ n ≤ (uintFor n).hi ∧ ∀ t : Ty, t.kind = .uint → t.width < (uintFor n).width → t.hi < n)
    ∧ (n < 0 → -9223372036854775808 ≤ n → (sintFor n).lo ≤ n ∧ n ≤ (sintFor n).hi ∧ ∀ t : Ty, t.kind = .sint → t.width < (sintFor n).width → n < t.lo) :=
  ⟨fun h0 h1 => ⟨(uintFor_range n h0 h1).1, (uintFor_range n h0 h1).2, uintFor_narrowest n⟩,
   fun h0 h1 => ⟨(sintFor_range n h0 h1).1, (sintFor_range n h0 h1).2, sintFor_narrowest n⟩⟩

/-- **from_value, the other plain values**: `bool → BOOLEAN`, `str → A`, `bytes → B`, `list → L` element by element, an Item stays
itself; the value is unchanged. -/
theorem from_value_other :
    (∀ b : Bool, Model.Item.fromValue (.bool b) = .ok (.item .bool [if b then 1 else 0]))
    ∧ (∀ cps : List Nat, Model.Item.fromValue (.str cps) = .ok (.item .a (cps.map (fun (c : Nat) => (c : Int)))))
    ∧ (∀ bs : Bytes, Model.Item.fromValue (.bytes bs) = .ok (.item .b (bs.map (fun (b : Nat) => (b : Int)))))
    ∧ (∀ ps : List PyVal, Model.Item.fromValue (.list ps) = match Model.Item.fromValues ps with | .error e => .error e | .ok vs => .ok (.list vs))
    ∧ (∀ v : Val, Model.Item.fromValue (.obj v) = .ok v) :=
  Proofs.CodecItem.from_value_other

example : Model.Item.fromValue (.list [.int 255, .int 256, .int (-129), .bool true, .str [72, 105], .bytes [0, 255], .list [.int 4294967296]])
    = .ok (.list [.item .u1 [255], .item .u2 [256], .item .i2 [-129], .item .bool [1], .item .a [72, 105], .item .b [0, 255], .list [.item .u8 [4294967296]]]) := by
  decide +kernel

example : Model.Item.decodeBytes [0x03, 0, 0, 1, 0xAA, 0x00, 0x02, 0x12, 0x34] = .ok (.list [.item .u2 [0x1234]], [])
    ∧ Model.Item.encode (.list [.item .u2 [0x1234]]) = .ok [0x01, 0x01, 0xA9, 0x02, 0x12, 0x34] := by decide +kernel

example : Model.Item.construct (.leaf .b) (.list [.int 1, .bytes [2, 3], .str [0xE9]]) = .ok (.item .b [1, 2, 3, 0xC3, 0xA9]) := by decide +kernel

/-- the Item API refuses NaN where the variables API accepts it — modelled as the code behaves -/
theorem witness_nan_refused : Model.Item.construct (.leaf .f8) (.float 0x7FF8000000000000) = .error .valueError
    ∧ Model.Var.setLeaf .f8 (-1) (.float 0x7FF8000000000000) = .ok [0x7FF8000000000000] := by decide +kernel

end SecsModel.Props.C14
