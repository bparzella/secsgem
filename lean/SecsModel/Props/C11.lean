import SecsModel.Proofs.Ctrl
/-!
# C11 — GEM control state follows the E30 control model for every operator/host history

Model: `Model.Gem.Ctrl` (on the C18 engine, generated control machine + forwarders); spec: `Spec.E30` (table); what the table
prescribes for a model input: `specStep` (defined in `Proofs.Ctrl`, where `stableStep` is built on it) and `specRun`.
-/
namespace SecsModel.Props.C11
open SecsModel.Model.SM SecsModel.Gen SecsModel.Model.Gem.Ctrl SecsModel.Spec.E30 SecsModel.Proofs.Ctrl SecsModel.Proofs.SMGen

def specRun (s : SState) : List Input → SState × List (List Spec.E30.Out)
  | [] => (s, [])
  | i :: rest =>
    match specStep s i with
    | (s1, outs) => match specRun s1 rest with
      | (s2, more) => (s2, outs :: more)

/-- **The generated control table refines the E30 table.**  Every shipped transition that implements an E30 trigger
(`trigOf`: `switch_online` ↦ operator ON-LINE, …, `remote_online` ↦ S1F17), from every source that is an E30 state, is a row of the
table with that source, trigger and target; every row of the table (transitions 3–6, 8–12; transition 4 with the shipped choice
HOST OFF-LINE) is implemented by a shipped transition; the remaining shipped transitions (`start`, `initial_*`: E30 transitions
1, 2, 7) start only in the pseudo states INIT/CONTROL/OFFLINE/ONLINE. -/
theorem table_refines_E30 : genInSpec = true ∧ specInGen = true ∧ pseudoOnly = true := table_refines

/-- the generated method bodies of `ControlStateMachine` (statement order included) that `Model.Gem.Ctrl.runMethod` interprets are
well-formed: every method the model calls exists; every `perform` names an existing transition; the two methods the probe handler
calls are one `perform` of the transition of the same name; the (method, transition) pairs agree with `Gen.CtrlSM.methods`.
That a *rejected* `switch_online_local/remote` must not touch the remembered sub-state is part of `step_refines_E30` (a raised
exception ⇒ the whole model state, `remote` included, is unchanged): swapping the two statements of either method re-generates
`Gen.CtrlMethods` and breaks that obligation. -/
theorem methods_wellformed :
    (["start", "switch_online", "switch_offline", "switch_online_local", "switch_online_remote", "remote_offline", "remote_online",
      "attempt_online_success", "attempt_online_fail_host_offline"].all fun m => CtrlMethods.methods.any fun r => r.1 == m) = true ∧
    (CtrlMethods.methods.all fun r => r.2.all fun st => st.1 == "assign" || (st.1 == "perform" && (lookup ctrl st.2.1).isSome)) = true ∧
    (["attempt_online_success", "attempt_online_fail_host_offline"].all fun m =>
      CtrlMethods.methods.any fun r => r.1 == m && r.2 == [("perform", m, "")]) = true ∧
    (CtrlSM.methods.all fun mt => CtrlMethods.methods.any fun r => r.1 == mt.1 && r.2.any fun st => st.1 == "perform" && st.2.1 == mt.2) = true := by
  decide +kernel

/-- **Step refinement**: 4 initial configurations × 5 states × 2 remembered sub-states × every operator/host input (the
attempt-online probe answered, unanswered, aborted, or not sent; also split into "probe outstanding" and "probe resolves").
From the resting state of `s` the model step ends in the resting state of the E30 successor (same remembered sub-state unless
transition 8/9), with exact `active` flags; the acknowledge codes and collection events it produces are, in order, those of
the table; and if the call raised, nothing changed and nothing was acknowledged or reported. -/
theorem step_refines_E30 (init : String) (hi : init ∈ inits) (s : S) (remote : Bool) (i : Input) (hl : i ≠ .linkLost) :
    let r := step (stable init s remote) i
    let sp := specStep ⟨s, remote⟩ i
    r.1 = stable init sp.1.st sp.1.remote ∧ visible r.2 = sp.2.map conc ∧
      (r.2.any isRaised = true → r.1 = stable init s remote ∧ r.2.length = 1 ∧ sp.2 = []) := by
  simp only [step_stable hi]
  obtain ⟨h1, h2, h3⟩ := stableStep_refines ⟨s, remote⟩ hl
  exact ⟨by rw [h1], h2, fun hr => ⟨by rw [(h3 hr).1], (h3 hr).2⟩⟩

/-- non-vacuity: S1F17 in HOST OFF-LINE with the switch on LOCAL → ON-LINE/LOCAL, event "control state LOCAL", ONLACK 0 -/
example : step (stable "HOST_OFFLINE" .hostOffline false) .s1f17
    = (stable "HOST_OFFLINE" .onlineLocal false, [.ceid 2, .ack 0]) := by decide +kernel

/-- **Acknowledge codes.**  In every resting state: S1F15 is answered OFLACK 0; S1F17 is answered ONLACK 0 in HOST OFF-LINE,
2 when already ON-LINE, 1 in EQUIPMENT OFF-LINE and ATTEMPT ON-LINE — the codes E30 assigns to the state the request arrived in. -/
theorem ack_codes (init : String) (hi : init ∈ inits) (s : S) (remote : Bool) :
    (step (stable init s remote) .s1f15).2.filter (fun o => match o with | .ack _ => true | _ => false) = [.ack (oflack s)] ∧
    (step (stable init s remote) .s1f17).2.filter (fun o => match o with | .ack _ => true | _ => false) = [.ack (onlack s)] := by
  have h15 := (step_refines_E30 init hi s remote .s1f15 (by decide)).2.1
  have h17 := (step_refines_E30 init hi s remote .s1f17 (by decide)).2.1
  rw [filter_visible _ (fun _ => rfl) (step (stable init s remote) .s1f15).2, h15,
    filter_visible _ (fun _ => rfl) (step (stable init s remote) .s1f17).2, h17]
  cases s <;> cases remote <;> exact ⟨rfl, rfl⟩

/-- **Collection events exactly on the transitions.**  The collection events a step triggers are, in order, the events of the
E30 transitions it takes (equipment OFF-LINE on 6, 10, 12; control state LOCAL/REMOTE on 7, 8, 9) — none when no transition is taken. -/
theorem events_exactly_on_transitions (init : String) (hi : init ∈ inits) (s : S) (remote : Bool) (i : Input) (hl : i ≠ .linkLost) :
    (step (stable init s remote) i).2.filter (fun o => match o with | .ceid _ => true | _ => false)
      = ((specStep ⟨s, remote⟩ i).2.filter (fun o => match o with | .event _ => true | _ => false)).map conc := by
  have h := (step_refines_E30 init hi s remote i hl).2.1
  rw [filter_visible _ (fun _ => rfl), h, List.filter_map]
  congr 1
  apply List.filter_congr
  intro o _
  cases o <;> simp [conc]

/-- **SVID 1002** as `_get_control_state_id` computes it equals the E30 value of the current state (1…5) in every resting state —
never −1. -/
theorem sv1002_correct (init : String) (hi : init ∈ inits) (s : S) (remote : Bool) :
    sv1002 (stable init s remote) = .ok (svValue s) ∧ 1 ≤ svValue s ∧ svValue s ≤ 5 :=
  ⟨sv_stable hi s remote, by cases s <;> decide⟩

/-- **The constructor reaches a resting state** (the nested forwarders terminate in a leaf): for each configured default and each
remembered sub-state the handler starts in the state E30 transitions 1, 2, 7 prescribe — for the ATTEMPT ON-LINE default in HOST
OFF-LINE, because the probe cannot be sent before communication is enabled (transition 4) — having triggered exactly the events
of those transitions. -/
theorem start_reaches_stable (init : String) (hi : init ∈ inits) (remote : Bool) :
    ∃ d, specDefault init = some d ∧
      Model.Gem.Ctrl.init init remote = (stable init (specInit d remote).1.st (specInit d remote).1.remote, (specInit d remote).2.map conc) :=
  init_stable hi remote

theorem stableRun_spec : ∀ (is : List Input), (∀ i ∈ is, i ≠ .linkLost) → ∀ s : SState,
    (stableRun s is).1 = (specRun s is).1 ∧ (stableRun s is).2.map visible = (specRun s is).2.map (·.map conc)
  | [], _, _ => ⟨rfl, rfl⟩
  | i :: is, hl, s => by
    obtain ⟨h1, h2, _⟩ := stableStep_refines s (hl i List.mem_cons_self)
    have ih := stableRun_spec is (fun j hj => hl j (List.mem_cons_of_mem _ hj)) (specStep s i).1
    show (stableRun (stableStep s i).1 is).1 = (specRun (specStep s i).1 is).1 ∧
      visible (stableStep s i).2 :: (stableRun (stableStep s i).1 is).2.map visible
        = (specStep s i).2.map conc :: (specRun (specStep s i).1 is).2.map (·.map conc)
    rw [h1, h2]
    exact ⟨ih.1, congrArg _ ih.2⟩

/-- **All histories.**  For every initial configuration and every finite sequence of operator and host inputs, the model run from
a resting state stays in resting states, ends in the state the E30 table prescribes, and produces step by step exactly the
table's acknowledge codes and collection events. -/
theorem history (init : String) (hi : init ∈ inits) (is : List Input) (hl : ∀ i ∈ is, i ≠ .linkLost) :
    ∀ (s : S) (remote : Bool),
      (Model.Gem.Ctrl.run (stable init s remote) is).1
        = stable init (specRun ⟨s, remote⟩ is).1.st (specRun ⟨s, remote⟩ is).1.remote ∧
      (Model.Gem.Ctrl.run (stable init s remote) is).2.map visible = (specRun ⟨s, remote⟩ is).2.map (·.map conc) := by
  intro s remote
  rw [run_stable hi is ⟨s, remote⟩]
  obtain ⟨h1, h2⟩ := stableRun_spec is hl ⟨s, remote⟩
  exact ⟨by rw [h1], h2⟩

/-- the same from the constructor: every initial configuration, every history -/
theorem history_from_start (init : String) (hi : init ∈ inits) (remote : Bool) (is : List Input) (hl : ∀ i ∈ is, i ≠ .linkLost) :
    ∃ d, specDefault init = some d ∧
      (Model.Gem.Ctrl.run (Model.Gem.Ctrl.init init remote).1 is).1
        = stable init (specRun (specInit d remote).1 is).1.st (specRun (specInit d remote).1 is).1.remote ∧
      (Model.Gem.Ctrl.run (Model.Gem.Ctrl.init init remote).1 is).2.map visible = (specRun (specInit d remote).1 is).2.map (·.map conc) := by
  obtain ⟨d, hd, he⟩ := start_reaches_stable init hi remote
  refine ⟨d, hd, ?_⟩
  rw [he]
  exact history init hi is hl _ _

/-- non-vacuity: a history through every transition of the table but 8 (LOCAL → REMOTE) -/
example : (Model.Gem.Ctrl.run (Model.Gem.Ctrl.init "EQUIPMENT_OFFLINE" true).1
      [.switchOnline .hostAnswers, .switchLocal, .s1f15, .s1f17, .s1f17, .switchOffline, .switchOffline, .switchOnline .hostSilent, .switchOffline]).2
    = [[.ceid 3], [.ceid 2], [.ceid 1, .ack 0], [.ceid 2, .ack 0], [.ack 2], [.ceid 1], [.raised .wrongSource], [], [.ceid 1]] := by
  decide +kernel

/-- **Link loss** (`on_connection_closed`; not an E30 trigger, outside the property's histories — recorded as what the code does):
from ON-LINE and from EQUIPMENT OFF-LINE the handler ends in HOST OFF-LINE, silently; an outstanding probe is left to fail. -/
theorem link_loss_effect (init : String) (hi : init ∈ inits) (s : S) (remote : Bool) :
    step (stable init s remote) .linkLost = (stable init (if s == .attemptOnline then .attemptOnline else .hostOffline) remote, []) :=
  step_stable hi s remote .linkLost

/-- `control_switch_online()` = the operator's switch is accepted and the probe is outstanding, then the probe resolves -/
theorem switch_online_split : ∀ init ∈ inits, ∀ s ∈ allStates, ∀ r ∈ [true, false], ∀ p ∈ probeList,
    (let c := stable init s r
     let a := step c (.switchOnline p)
     let b1 := step c .onlineBegin
     let b2 := step b1.1 (.probe p)
     if b1.2.any isRaised then a.1 == b1.1 && a.2 == b1.2 else a.1 == b2.1 && a.2 == b1.2 ++ b2.2) = true := by
  intro init hi s hs r hr p hp
  have h := stableStep_split s hs r hr p hp
  simp only [step_stable hi]
  split at h <;> rename_i hb <;> simp [hb, h]

end SecsModel.Props.C11
