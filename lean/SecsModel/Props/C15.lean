import SecsModel.Gen.Sml
import SecsModel.Proofs.SmlParse
import SecsModel.Proofs.SmlReject
/-!
# C15 — SML text of any item parses back to the same item; the parser terminates; unclosed / unknown-type input is rejected

The model is `Model/Sml.lean`.  `Defects.none` is the code; `Defects.current` is the regression variant (`"` printed inside text
literals, the code point of the decoded character printed for JIS-8 text).  `fmtF`/`parseF` stand for Python's `repr(float)` /
`float(text)` and are constrained only by the hypotheses `FloatLaws` (print/parse; with `safeItem` in `Proofs/SmlItem`) and
`FloatRejectsBrackets` (rejection; with `balancedItem` in `Proofs/SmlReject`).
-/
namespace SecsModel.Props.C15
open SecsModel.Model.Sml SecsModel.Proofs.Sml

/-- the character classes of `SMLParser`, the bracket and terminator literals of `item.py`, the type names and the numeric bounds of
the item classes, as generated from the source, are the constants `Model.Sml` is written with -/
theorem gen_constants :
    (∀ c, isWs c = true ↔ c ∈ SecsModel.Gen.Sml.whitespaces)
    ∧ (∀ c, isOp c = true ↔ c ∈ SecsModel.Gen.Sml.operators)
    ∧ (∀ c, isDelim c = true ↔ c ∈ SecsModel.Gen.Sml.literalDelimiter)
    ∧ SecsModel.Gen.Sml.openLit = [60] ∧ SecsModel.Gen.Sml.lenOpenLit = [91] ∧ SecsModel.Gen.Sml.lenCloseLit = [93]
    ∧ SecsModel.Gen.Sml.closersLit = [62, 46]
    ∧ (∀ n ∈ SecsModel.Gen.Sml.typeNames, (typeTable.lookup n).isSome = true)
    ∧ (∀ p ∈ typeTable, p.1 ∈ SecsModel.Gen.Sml.typeNames)
    ∧ (∀ t : IntTy, (t.name, t.min, t.max) ∈ SecsModel.Gen.Sml.intBounds) ∧ SecsModel.Gen.Sml.intBounds.length = 8
    ∧ (∀ t : FltTy, (t.name, t.maxBits + 2 ^ 63, t.maxBits) ∈ SecsModel.Gen.Sml.fltBounds) ∧ SecsModel.Gen.Sml.fltBounds.length = 2
    ∧ SecsModel.Gen.Sml.otherBounds = [(tyL, none), (tyB, some (0, 255)), (tyBOOLEAN, some (0, 1)), (tyJ, some (0, 255)), (tyA, some (0, 255))] := by
  refine ⟨?_, ?_, ?_, by decide, by decide, by decide, by decide, by decide +kernel, by decide +kernel, ?_, by decide, ?_, by decide,
    by decide +kernel⟩
  · intro c; simp [isWs, SecsModel.Gen.Sml.whitespaces, or_assoc]
  · intro c; simp [isOp, SecsModel.Gen.Sml.operators, or_assoc]
  · intro c; simp [isDelim, SecsModel.Gen.Sml.literalDelimiter]
  · intro t; cases t <;> decide +kernel
  · intro t; cases t <;> decide +kernel

/-- `printable_chars` of the three string classes is one set; it is the model's `isPrintable`, with the flag `quotePrintable`
being exactly "the set contains `\"`" -/
theorem gen_printable :
    SecsModel.Gen.Sml.printableJ = SecsModel.Gen.Sml.printableA ∧ SecsModel.Gen.Sml.printableStr = SecsModel.Gen.Sml.printableA
    ∧ (∀ x ∈ SecsModel.Gen.Sml.printableA, x < 128)
    ∧ (∀ c, c < 128 → isPrintable ⟨SecsModel.Gen.Sml.printableA.contains 34, false⟩ c = SecsModel.Gen.Sml.printableA.contains c) := by
  have key : ∀ q, SecsModel.Gen.Sml.printableA = (List.range 128).filter (isPrintable ⟨q, false⟩) →
      (∀ x ∈ SecsModel.Gen.Sml.printableA, x < 128)
      ∧ ∀ c, c < 128 → isPrintable ⟨q, false⟩ c = SecsModel.Gen.Sml.printableA.contains c := by
    -- `q` is a variable so that `rw [h]` does not also rewrite the `printableA` inside the `Defects` argument
    intro q h
    rw [h]
    refine ⟨fun x hx => List.mem_range.mp (List.mem_filter.mp hx).1, fun c hc => ?_⟩
    rw [List.contains_eq_mem]
    simp only [List.mem_filter, List.mem_range, hc, true_and, Bool.decide_eq_true]
  exact ⟨by decide +kernel, by decide +kernel, key _ (by decide +kernel)⟩

/-- `jisDecode` is `jis8_decoding_map` of `codec_jis_x_0201.py` on all 256 bytes, and `jisEncode` takes every decoded byte back -/
theorem gen_jis8 :
    SecsModel.Gen.Sml.jis8Decoding.length = 256
    ∧ (∀ b, b < 256 → SecsModel.Gen.Sml.jis8Decoding[b]? = some (jisDecode b))
    ∧ (∀ b, b < 256 → jisEncode (jisDecode b) = some b) := by
  have htab : SecsModel.Gen.Sml.jis8Decoding = (List.range 256).map jisDecode := by decide +kernel
  refine ⟨by rw [htab, List.length_map, List.length_range], fun b hb => ?_, jisEncode_jisDecode⟩
  rw [htab, List.getElem?_map, List.getElem?_range hb]; rfl

theorem print_parse_variant (d : Defects) (fmtF : Nat → Text) (parseF : Text → Option Nat) (hF : FloatLaws fmtF parseF)
    (v : Item) (hv : v.valid = true) (hs : safeItem d v = true) (ind : Nat) :
    parse parseF (toSml d fmtF ind v) = .ok v
    ∧ parseTokens parseF (tokenize (toSml d fmtF ind v)) = .ok (v, []) := by
  have htok : tokenize (toSml d fmtF ind v) = toksOf d fmtF v := by
    have := tok_item d fmtF parseF hF v hv hs ind []
    simpa [tokenize, tokGo] using this
  have hp : parseTokens parseF (toksOf d fmtF v) = .ok (v, []) := by
    have := parse_item d fmtF parseF hF v hv hs ((toksOf d fmtF v).length + 1) [] (by omega)
    simpa [parseTokens] using this
  constructor
  · unfold parse; rw [htok, hp]
  · rw [htok, hp]

/-- **C15, print/parse, all items** (secsgem as it is, `Defects.none`): for every valid item — any type, any nesting, empty
items, every byte value in A/J text, every in-range number — the SML text parses back to exactly that item, and the parser
consumes every token of it.  `fmtF`/`parseF` are any float printer/reader satisfying `FloatLaws`. -/
theorem C15_print_parse (fmtF : Nat → Text) (parseF : Text → Option Nat) (hF : FloatLaws fmtF parseF)
    (v : Item) (hv : v.valid = true) :
    parse parseF (toSml Defects.none fmtF 0 v) = .ok v
    ∧ parseTokens parseF (tokenize (toSml Defects.none fmtF 0 v)) = .ok (v, []) :=
  print_parse_variant Defects.none fmtF parseF hF v hv (safe_none v) 0

/-- indentation does not matter (the children of a list are printed with `indent + 4`) -/
theorem C15_print_parse_indent (fmtF : Nat → Text) (parseF : Text → Option Nat) (hF : FloatLaws fmtF parseF)
    (v : Item) (hv : v.valid = true) (ind : Nat) :
    parse parseF (toSml Defects.none fmtF ind v) = .ok v :=
  (print_parse_variant Defects.none fmtF parseF hF v hv (safe_none v) ind).1

/-- **C15, print/parse, regression variant** (`Defects.current`): the same statement restricted to items whose A/J text contains no
`"` and whose J text consists of bytes that `jis_8` decodes to themselves (everything except 5c, 7e, a1..df — in particular all
J text whose decoded characters are ASCII). -/
theorem C15_print_parse_partial (fmtF : Nat → Text) (parseF : Text → Option Nat) (hF : FloatLaws fmtF parseF)
    (v : Item) (hv : v.valid = true) (hs : safeItem Defects.current v = true) :
    parse parseF (toSml Defects.current fmtF 0 v) = .ok v
    ∧ parseTokens parseF (tokenize (toSml Defects.current fmtF 0 v)) = .ok (v, []) :=
  print_parse_variant Defects.current fmtF parseF hF v hv hs 0

theorem C15_print_parse_partial_quote_only (fmtF : Nat → Text) (parseF : Text → Option Nat) (hF : FloatLaws fmtF parseF)
    (v : Item) (hv : v.valid = true) (hs : safeItem ⟨true, false⟩ v = true) :
    parse parseF (toSml ⟨true, false⟩ fmtF 0 v) = .ok v :=
  (print_parse_variant ⟨true, false⟩ fmtF parseF hF v hv hs 0).1

theorem C15_print_parse_partial_jis8_only (fmtF : Nat → Text) (parseF : Text → Option Nat) (hF : FloatLaws fmtF parseF)
    (v : Item) (hv : v.valid = true) (hs : safeItem ⟨false, true⟩ v = true) :
    parse parseF (toSml ⟨false, true⟩ fmtF 0 v) = .ok v :=
  (print_parse_variant ⟨false, true⟩ fmtF parseF hF v hv hs 0).1

/-! non-vacuity: a float printer/reader satisfying the laws exists (hex of the bit pattern), and a valid, nested item
with quotes, control characters, bytes ≥ 0x80, boundary numbers and empty items -/

def demoFmt (b : Nat) : Text := natText 14 b
def demoParse (t : Text) : Option Nat := digitsGo 16 t 0 false 0

theorem demo_laws : FloatLaws demoFmt demoParse :=
  ⟨fun b _ _ => natText_word 14 b (by omega),
   fun b _ _ => digitsGo_natText 14 b (by omega)⟩

def demoItem : Item :=
  .list [.strA [97, 34, 98, 10, 255, 32, 62], .strJ [0x5C, 0xA1, 65, 34, 0x7E], .list [], .list [.list [.bin []]],
         .int .i8 [-9223372036854775808, 9223372036854775807], .int .u1 [], .bool [true, false], .bin [0, 255],
         .flt .f4 [0x47EFFFFFE0000000, 0x8000000000000000], .flt .f8 [0x7FEFFFFFFFFFFFFF, 1]]

example : demoItem.valid = true := by decide +kernel
example : parse demoParse (toSml Defects.none demoFmt 0 demoItem) = .ok demoItem :=
  (C15_print_parse demoFmt demoParse demo_laws demoItem (by decide +kernel)).1
/-- the partial theorem's hypothesis is satisfiable by an item with text in it -/
example : safeItem Defects.current (.list [.strA [97, 39, 10, 255], .strJ [65, 0x80, 0xA0, 0xE0, 0xFF, 10]]) = true := by decide +kernel
/-- … and excludes the witnesses -/
example : safeItem Defects.current (.strA [97, 34, 98]) = false ∧ safeItem Defects.current (.strJ [0x5C, 0xA1, 65]) = false := by
  decide +kernel

example : tokenize [60, 32, 85, 49, 32, 49, 50, 32, 62] = [[60], [85, 49], [49, 50], [62]] := by decide
/-- no flush at end of input: the pending token `12` is lost -/
example : tokenize [60, 32, 85, 49, 32, 49, 50] = [[60], [85, 49]] := by decide

/-- F-19 (regression variant, as are the next three): `ItemA('a"b')` prints `< A "a"b">`; the tokenizer yields `<`, `A`, `"a"` and
loses the rest, the parser runs out of tokens (`IndexError`).  For every float printer/reader. -/
theorem C15_witness_quote (fmtF : Nat → Text) (parseF : Text → Option Nat) :
    toSml Defects.current fmtF 0 (.strA [97, 34, 98]) = [60, 32, 65, 32, 34, 97, 34, 98, 34, 62]
    ∧ tokenize (toSml Defects.current fmtF 0 (.strA [97, 34, 98])) = [[60], [65], [34, 97, 34]]
    ∧ parse parseF (toSml Defects.current fmtF 0 (.strA [97, 34, 98])) = .error .index :=
  ⟨rfl, rfl, rfl⟩

/-- F-19, silent variant: `ItemA('""')` prints `< A """">`, which parses — to the empty string. -/
theorem C15_witness_quote_silent (fmtF : Nat → Text) (parseF : Text → Option Nat) :
    parse parseF (toSml Defects.current fmtF 0 (.strA [34, 34])) = .ok (.strA []) := rfl

/-- F-20: `ItemJ(b"\x5c\xa1A")` prints `< J 0xa5 0xff61 "A">` (codes of the decoded characters U+00A5, U+FF61); `0xff61` is out of
bounds for J (`SMLParseError`). -/
theorem C15_witness_jis8 (fmtF : Nat → Text) (parseF : Text → Option Nat) :
    toSml Defects.current fmtF 0 (.strJ [0x5C, 0xA1, 65])
      = [60, 32, 74, 32, 48, 120, 97, 53, 32, 48, 120, 102, 102, 54, 49, 32, 34, 65, 34, 62]
    ∧ parse parseF (toSml Defects.current fmtF 0 (.strJ [0x5C, 0xA1, 65])) = .error .parse :=
  ⟨rfl, rfl⟩

/-- F-20, silent variant: `ItemJ(b"\x5c")` prints `< J 0xa5>`, which parses — to the byte a5 (HALFWIDTH KATAKANA, not YEN). -/
theorem C15_witness_jis8_silent (fmtF : Nat → Text) (parseF : Text → Option Nat) :
    parse parseF (toSml Defects.current fmtF 0 (.strJ [0x5C])) = .ok (.strJ [0xA5]) := rfl

/-- each flag alone already breaks its witness; `Defects.none` reads both back -/
theorem C15_witness_flags (fmtF : Nat → Text) (parseF : Text → Option Nat) :
    parse parseF (toSml ⟨true, false⟩ fmtF 0 (.strA [97, 34, 98])) = .error .index
    ∧ parse parseF (toSml ⟨false, true⟩ fmtF 0 (.strJ [0x5C, 0xA1, 65])) = .error .parse
    ∧ parse parseF (toSml Defects.none fmtF 0 (.strA [97, 34, 98])) = .ok (.strA [97, 34, 98])
    ∧ parse parseF (toSml Defects.none fmtF 0 (.strJ [0x5C, 0xA1, 65])) = .ok (.strJ [0x5C, 0xA1, 65]) :=
  ⟨rfl, rfl, rfl, rfl⟩

/-- **C15, termination.**  `parseTokens` (fuel = token count + 1) never exhausts its fuel, on any token list whatsoever: the
recursion of the real parser terminates.  A returned item consumed at least three tokens (`<`, type, closer); any larger fuel gives
the same answer, so the fuel is not a cut-off. -/
theorem C15_total (parseF : Text → Option Nat) (ts : List Text) :
    parseTokens parseF ts ≠ .error .fuel
    ∧ (∀ v r, parseTokens parseF ts = .ok (v, r) → r.length + 3 ≤ ts.length)
    ∧ (∀ k, readItem parseF (ts.length + 1 + k) ts = parseTokens parseF ts) := by
  have h := (read_consumes parseF (ts.length + 1)).1 ts (Nat.le_refl _)
  exact ⟨h.1, h.2, readItem_fuel_irrelevant parseF ts⟩

/-- on text: `parse` returns an item or one of the three Python exceptions, never the fuel error -/
theorem C15_total_text (parseF : Text → Option Nat) (s : Text) : parse parseF s ≠ .error .fuel := by
  unfold parse
  have := (C15_total parseF (tokenize s)).1
  cases h : parseTokens parseF (tokenize s) with
  | ok p => simp
  | error e => intro he; injection he with he; subst he; exact this h

/-- **C15, unclosed / unknown type.**  Whatever the parser accepts is well-bracketed: the consumed tokens `pre` start with `<`
followed by a known type name, every inner `<` is followed by a known type name, and the brackets (closers: what `isCloser` takes —
`>`, `.` as the code has it, and on arbitrary token lists also `""` and `">."`) return to depth 0 for the first time exactly at the
last consumed token.  So text whose tokens have no such prefix — a missing closing bracket, an unknown type name after any consumed
`<` — is never parsed to an item. -/
theorem C15_reject_unclosed (parseF : Text → Option Nat) (hP : FloatRejectsBrackets parseF) (ts : List Text) (v : Item) (r : List Text)
    (h : parseTokens parseF ts = .ok (v, r)) :
    ∃ pre, ts = pre ++ r ∧ balancedItem pre = true := by
  obtain ⟨pre, hpre, hk, hc⟩ := (read_shape parseF hP (ts.length + 1)).1 ts v r h
  exact ⟨[60] :: pre, by rw [hpre], by simp [balancedItem, hk, hc]⟩

/-- the direct form: a token list with no balanced prefix is rejected (with one of the Python exceptions, not by running out of fuel) -/
theorem C15_reject_no_balanced_prefix (parseF : Text → Option Nat) (hP : FloatRejectsBrackets parseF) (ts : List Text)
    (hno : ∀ pre r, ts = pre ++ r → balancedItem pre = false) :
    ∃ e, parseTokens parseF ts = .error e ∧ e ≠ .fuel := by
  cases h : parseTokens parseF ts with
  | error e => exact ⟨e, rfl, fun he => (C15_total parseF ts).1 (by rw [h, he])⟩
  | ok p =>
    obtain ⟨v, r⟩ := p
    obtain ⟨pre, hpre, hb⟩ := C15_reject_unclosed parseF hP ts v r h
    rw [hno pre r hpre] at hb; cases hb

/-- **C15, a missing closing bracket.**  Take any token list that parses completely to an item (nothing left over) and delete any
one of its closing tokens (`>`, or `.` where the code takes it for one): the result is rejected with a Python exception. -/
theorem C15_reject_deleted_closer (parseF : Text → Option Nat) (hP : FloatRejectsBrackets parseF) (a b : List Text) (c : Text)
    (v : Item) (hc : isCloser c = true) (h : parseTokens parseF (a ++ c :: b) = .ok (v, [])) :
    ∃ e, parseTokens parseF (a ++ b) = .error e ∧ e ≠ .fuel := by
  obtain ⟨pre, hpre, hb⟩ := C15_reject_unclosed parseF hP _ v [] h
  rw [List.append_nil] at hpre
  rw [← hpre] at hb
  exact C15_reject_no_balanced_prefix parseF hP (a ++ b) (balancedItem_delete_closer a b c hc hb)

/-- non-vacuity: `< L [1] < U1 1 > >` parses completely; without its inner `>` it is rejected -/
example : parseTokens demoParse ([[60], [76], [91], [49], [93], [60], [85, 49], [49]] ++ [62] :: [[62]]) = .ok (.list [.int .u1 [1]], []) := rfl
example : parseTokens demoParse ([[60], [76], [91], [49], [93], [60], [85, 49], [49]] ++ [[62]]) = .error .index := rfl

/-- **C15, unknown type name** at the top: `<` followed by a token that is not (case-insensitively) one of the fifteen type names is
an `SMLParseError`, whatever follows. -/
theorem C15_reject_unknown_type (parseF : Text → Option Nat) (ty : Text) (rest : List Text) (h : typeOf ty = none) :
    parseTokens parseF ([60] :: ty :: rest) = .error .parse := by
  simp [parseTokens, readItem, h]

/-- non-vacuity of `C15_reject_no_balanced_prefix`: no prefix of `< U1 1` is a balanced item (the prefixes are the `take n`, `n < 4`) -/
example : ∀ pre r, [[60], [85, 49], [49]] = pre ++ r → balancedItem pre = false := by
  intro pre r h
  have hn : ∀ n, n < 4 → balancedItem (List.take n [[60], [85, 49], [49]]) = false := by decide
  have := hn pre.length (by have := congrArg List.length h; simp only [List.length_append, List.length_cons, List.length_nil] at this; omega)
  rwa [h, List.take_left' rfl] at this
example : typeOf [85, 51] = none := by decide
example : typeOf [98, 111, 111, 108, 101, 97, 110] = some .boolean := by decide   -- `boolean`: names are case-insensitive
example : FloatRejectsBrackets demoParse := by unfold FloatRejectsBrackets; decide

/-- the `.` terminator (a note, not a defect): `< L < U1 1 > .` followed by whitespace parses like `< L < U1 1 > >` -/
example (parseF : Text → Option Nat) :
    parse parseF [60, 32, 76, 32, 60, 32, 85, 49, 32, 49, 32, 62, 32, 46, 32] = .ok (.list [.int .u1 [1]]) := rfl
/-- … and without the trailing whitespace the `.` is never emitted as a token (`IndexError`) -/
example (parseF : Text → Option Nat) :
    parse parseF [60, 32, 76, 32, 60, 32, 85, 49, 32, 49, 32, 62, 32, 46] = .error .index := rfl

end SecsModel.Props.C15
