import SecsModel.Proofs.Txn
import SecsModel.Gen.RxOrder
import SecsModel.Gen.DispatchGuard
/-!
# C06 — Replies reach exactly their requester; messages delivered once, in order

All statements are invariants of `Model.Txn.sys cfg` over **arbitrary schedules** (`Sys.run`): any number of callers, any
number of steps, any interleaving of callers, receive path, dispatcher threads, timeouts and link events (the two `reconnect_*_partial`
statements: over the schedules of the restricted system `(sys cfg).pre quietDown`).
Configurations: `replyOnly c0` is the code as it is — allocator atomicity as generated from the source, dispatcher threads never
stopped, only a reply (even function) looked up in `_response_queues`.  `current c0` differs from it in routing by system bytes
alone, whatever the function: the variant that `witness_routing_window`, `witness_primary_to_caller`,
`witness_primary_dropped_with_queue` refute.  The other examples run `current` too; their inbound messages are unsolicited or meant
as replies, and the parity of their tags plays no part.  `patched c0` is `current c0` with the per-start stop token of
`proposals/C06-dispatcher-leak`.

`Model.Txn` has the routing branch as two steps, `handle` (the test) and `put` (look-up in `reg` and `put_nowait`).  The code as it is
takes the queue object in the test itself (`_response_queues.get`), so its `put_nowait` cannot raise: what the model records in `lost` is
there a message put to a queue that `_remove_queue` has already dropped.
-/
namespace SecsModel.Props.C06
open SecsModel SecsModel.Model.Txn SecsModel.Proofs.Txn

def current (c0 : Int) : Cfg := { atomic := Gen.Misc.getNextSystemCounterAtomic, patched := false, c0 := c0 }
def patched (c0 : Int) : Cfg := { atomic := Gen.Misc.getNextSystemCounterAtomic, patched := true, c0 := c0 }
/-- the code as it is: `_on_connection_message_received` (hsms/protocol.py, secsi/protocol.py) looks only a reply up in `_response_queues` -/
def replyOnly (c0 : Int) : Cfg := { atomic := Gen.Misc.getNextSystemCounterAtomic, patched := false, c0 := c0, replyOnly := true }

/-- the whole of `get_next_system_counter` runs under the lock (regenerated from the source on every run) -/
theorem counter_atomic : Gen.Misc.getNextSystemCounterAtomic = true := rfl

/-- the generated `get_next_system_counter` is `+1 mod 2³²` on the counter and returns the new counter -/
theorem counter_spec (c : Int) (h0 : 0 ≤ c) (h1 : c < 4294967296) :
    Gen.Misc.getNextSystemCounter c = .ok ((c + 1) % 4294967296, (c + 1) % 4294967296) :=
  getNextSystemCounter_spec c h0 h1

example : Gen.Misc.getNextSystemCounter 4294967295 = .ok (0, 0) := rfl

/-- **No lost wake-up between the receive path and a dispatcher thread** (statement orders regenerated from the source, `Gen.RxOrder`):
`queue_block` appends *before* it sets the trigger, and the dispatcher loop clears its trigger *before* it drains the queue — so a block queued at any moment is either seen by the running drain loop or leaves the trigger set.  This is what the model's
`pop` step assumes (it is enabled whenever the dispatch queue is non-empty and the thread is idle). -/
theorem dispatcher_loop_order :
    Gen.RxOrder.queueBlock = ["append", "trigger"] ∧ Gen.RxOrder.dispatcherLoop = ["wait", "clear", "stoptest", "drain"] := by decide +kernel

/-- **The receiver and dispatcher threads survive any exception of their callbacks** (except clauses regenerated from the source,
`Gen.DispatchGuard`): both loops catch `Exception` around the callback and do not re-raise — an undecodable frame or a failing
`message_received` handler is logged and the loop goes on.  The model relies on it: `rx`, `pop`, `handle` stay enabled for the messages
that follow whatever the earlier ones were. -/
theorem loops_survive_callback :
    Gen.DispatchGuard.receiverCatches = ["Exception"] ∧ Gen.DispatchGuard.dispatcherCatches = ["Exception"]
      ∧ Gen.DispatchGuard.receiverReraises = false ∧ Gen.DispatchGuard.dispatcherReraises = false := by decide +kernel

/-- **Outstanding requests carry pairwise distinct system bytes**, for every schedule — provided fewer than 2³² ids were
allocated since either request got its own (the 32-bit wrap is part of the generated allocator). -/
theorem ids_distinct (cfg : Cfg) (hat : cfg.atomic = Gen.Misc.getNextSystemCounterAtomic)
    (h0 : 0 ≤ cfg.c0) (h1 : cfg.c0 < 4294967296) (sched : List Step) (s : State) (hr : (sys cfg).run sched = some s)
    (c1 c2 : Nat) (hne : c1 ≠ c2)
    (o1 : (s.callers c1).pc.hasId = true) (o2 : (s.callers c2).pc.hasId = true)
    (w1 : s.allocs < (s.callers c1).allocAt + 4294967296) (w2 : s.allocs < (s.callers c2).allocAt + 4294967296) :
    (s.callers c1).id ≠ (s.callers c2).id := by
  have inv : IdInv cfg s := inv_run (id_init cfg h0 h1) (id_step (hat.trans counter_atomic)) hr
  have a1 := inv.own c1 o1
  have a2 := inv.own c2 o2
  have hu := inv.uniq c1 c2 hne o1 o2
  rw [a1.2, a2.2]
  omega

/-- non-vacuity: two callers outstanding across the wrap (`c0 = 2³² - 1`): ids 0 and 1 -/
example : ((sys (current 4294967295)).run [.linkUp, .alloc 0, .alloc 1, .register 0, .register 1, .send 0, .send 1]).map
    (fun s => ((s.callers 0).id, (s.callers 1).id, (s.callers 0).pc.hasId, (s.callers 1).pc.hasId, s.allocs, (s.callers 0).allocAt))
    = some (0, 1, true, true, 2, 1) := by decide +kernel

/-- **A caller only ever receives a message carrying its own system bytes** (or `None`), for every schedule and every
configuration; every message waiting in a caller's queue carries that caller's system bytes. -/
theorem routing (cfg : Cfg) (sched : List Step) (s : State) (hr : (sys cfg).run sched = some s) :
    (∀ c m, (s.callers c).result = some m → m.sys = (s.callers c).id)
    ∧ (∀ c m, m ∈ s.q c → m.sys = (s.callers c).id)
    ∧ (∀ k c, s.reg k = some c → (s.callers c).id = k) := by
  have inv : RouteInv s := inv_run (route_init cfg) route_step hr
  exact ⟨fun c => (inv.ok c).res, fun c => (inv.ok c).qSys, fun k c h => (inv.owner k c h).1⟩

/-- **never another caller's reply**: what caller `c` received does not carry the system bytes of any other outstanding request -/
theorem never_anothers_reply (cfg : Cfg) (hat : cfg.atomic = Gen.Misc.getNextSystemCounterAtomic)
    (h0 : 0 ≤ cfg.c0) (h1 : cfg.c0 < 4294967296) (sched : List Step) (s : State) (hr : (sys cfg).run sched = some s)
    (c c' : Nat) (hne : c ≠ c') (m : Msg) (hres : (s.callers c).result = some m)
    (o1 : (s.callers c).pc.hasId = true) (o2 : (s.callers c').pc.hasId = true)
    (w1 : s.allocs < (s.callers c).allocAt + 4294967296) (w2 : s.allocs < (s.callers c').allocAt + 4294967296) :
    m.sys ≠ (s.callers c').id := by
  rw [(routing cfg sched s hr).1 c m hres]
  exact ids_distinct cfg hat h0 h1 sched s hr c c' hne o1 o2 w1 w2

/-- non-vacuity + permutation of replies: replies arrive in the opposite order of the requests, each caller gets its own;
an unsolicited message in between goes to the application -/
example : ((sys (current 100)).run [.linkUp, .alloc 0, .alloc 1, .register 0, .register 1, .send 0, .send 1,
      .rx ⟨102, 7⟩, .rx ⟨55, 1⟩, .rx ⟨101, 9⟩, .pop 0, .handle 0, .put 0, .pop 0, .handle 0, .finish 0, .pop 0, .handle 0, .put 0,
      .recv 0, .recv 1, .unregister 0, .unregister 1]).map
    (fun s => ((s.callers 0).result, (s.callers 1).result, s.delivered, s.wire))
    = some (some ⟨101, 9⟩, some ⟨102, 7⟩, [⟨55, 1⟩], [101, 102]) := by decide +kernel

/-- late reply: the caller timed out and unregistered; the late reply is handed to the application, not to anybody's queue -/
example : ((sys (current 100)).run [.linkUp, .alloc 0, .register 0, .send 0, .timeout 0, .unregister 0,
      .rx ⟨101, 9⟩, .pop 0, .handle 0]).map (fun s => ((s.callers 0).result, s.delivered))
    = some (none, [⟨101, 9⟩]) := by decide +kernel

/-- **Accounting of inbound messages**, every schedule, every configuration (any number of dispatcher threads): what arrived is what
was taken from the dispatch queue followed by what still waits there (FIFO, nothing lost or duplicated); every routing decision has
exactly one outcome — `handled` records `(message, put-to-a-queue?)` — and the application got exactly the messages decided
"not for a queue", in decision order. -/
theorem no_steal (cfg : Cfg) (sched : List Step) (s : State) (hr : (sys cfg).run sched = some s) :
    s.arrived = s.popped ++ s.inbox
    ∧ s.delivered = (s.handled.filter (fun e => !e.2)).map (·.1) := by
  have inv : AcctInv s := inv_run (acct_init cfg) acct_step hr
  exact ⟨inv.arr, inv.del⟩

/-- **While at most one dispatcher thread has ever been active** (`everTwo = false`): the arrivals are, in order, the handled
messages, then the at most one message taken but not yet handled, then the dispatch queue; the application received exactly the
handled messages that were not replies, *in arrival order*, each once; and at most one handler runs at any time. -/
theorem once_in_order (cfg : Cfg) (sched : List Step) (s : State) (hr : (sys cfg).run sched = some s) (h1 : s.everTwo = false) :
    s.arrived = s.handled.map (·.1) ++ held s ++ s.inbox
    ∧ s.delivered = (s.handled.filter (fun e => !e.2)).map (·.1)
    ∧ busy s ≤ 1 ∧ (held s).length + busy s ≤ 1 := by
  obtain ⟨ha, hp⟩ := inv_run (order_init cfg) order_step hr h1
  obtain ⟨a1, a2⟩ := no_steal cfg sched s hr
  have hb : (held s).length + busy s ≤ 1 := Nat.le_trans (held_busy_le_active s.disp) ha
  exact ⟨by rw [a1, hp], a2, Nat.le_trans (Nat.le_add_left _ _) hb, hb⟩

/-- **The code as it is, on one connection** (at most one `start()`): never two dispatcher threads, so `once_in_order` applies. -/
theorem single_connection (cfg : Cfg) (sched : List Step) (s : State) (hr : (sys cfg).run sched = some s) (hu : s.ups ≤ 1) :
    s.everTwo = false ∧ s.disp.length = s.ups := by
  have inv : LenInv s := inv_run (len_init cfg) len_step hr
  exact ⟨inv.2 hu, inv.1⟩

/-- non-vacuity: a slow handler blocks the next message (`pop` of the second message is not enabled while the first handler runs) -/
example : (sys (current 0)).run [.linkUp, .rx ⟨1, 1⟩, .rx ⟨2, 2⟩, .pop 0, .handle 0, .pop 0] = none := by decide +kernel
example : ((sys (current 0)).run [.linkUp, .rx ⟨1, 1⟩, .rx ⟨2, 2⟩, .pop 0, .handle 0, .finish 0, .pop 0, .handle 0]).map
    (fun s => (s.delivered, s.everTwo, s.ups)) = some ([⟨1, 1⟩, ⟨2, 2⟩], false, 1) := by decide +kernel

/-- **With the per-start stop token** (`proposals/C06-dispatcher-leak`), for every schedule with any number of link losses and
reconnects in which the link is not dropped while a dispatcher thread holds a message: never two active dispatcher threads. -/
theorem reconnect_patched_partial (cfg : Cfg) (hp : cfg.patched = true) (sched : List Step) (s : State)
    (hr : ((sys cfg).pre quietDown).run sched = some s) :
    s.everTwo = false ∧ active s ≤ 1 ∧ live s ≤ 1 := by
  have inv : PatchInv s := Sys.inv_of_step ((sys cfg).pre quietDown) PatchInv (patch_init cfg)
    (fun s i s' hi hs => by
      obtain ⟨hq, hs⟩ := Sys.pre_step hs
      obtain ⟨s1, h1, rfl⟩ := step_fires hs
      exact patch_step hp hi hq h1) sched s hr
  exact ⟨inv.never, inv.one, Nat.le_trans (List.countP_mono_left fun d _ hd => Bool.or_eq_true_iff.mpr (.inl hd)) inv.one⟩

/-- … and therefore messages are handed over once, one at a time, in arrival order, also after the link was lost and re-established -/
theorem reconnect_in_order_partial (cfg : Cfg) (hp : cfg.patched = true) (sched : List Step) (s : State)
    (hr : ((sys cfg).pre quietDown).run sched = some s) :
    s.arrived = s.handled.map (·.1) ++ held s ++ s.inbox
    ∧ s.delivered = (s.handled.filter (fun e => !e.2)).map (·.1)
    ∧ busy s ≤ 1 ∧ (held s).length + busy s ≤ 1 :=
  once_in_order cfg sched s (Sys.pre_run _ _ _ _ hr) (reconnect_patched_partial cfg hp sched s hr).1

/-- non-vacuity: two reconnects with traffic in between, patched: three dispatcher threads were created, one is live -/
example : (((sys (patched 0)).pre quietDown).run [.linkUp, .rx ⟨1, 1⟩, .pop 0, .handle 0, .finish 0, .linkDown, .linkUp, .rx ⟨2, 2⟩,
      .pop 1, .handle 1, .finish 1, .linkDown, .linkUp, .rx ⟨3, 3⟩, .pop 2, .handle 2]).map
    (fun s => (s.delivered, s.disp.length, live s, s.everTwo)) = some ([⟨1, 1⟩, ⟨2, 2⟩, ⟨3, 3⟩], 3, 1, false) := by decide +kernel

/-- **A new link starts at a frame boundary.**  Whatever part of an inbound frame had arrived when the link was lost is gone when the
link is down (`_on_disconnected` clears the receive buffer), for every schedule and every configuration — so the bytes of the
re-established link are framed on their own and `rx` (a complete frame decoded and queued) means the same before and after a reconnect. -/
theorem fresh_link_framing (cfg : Cfg) (sched : List Step) (s : State) (hr : (sys cfg).run sched = some s) (hdown : s.up = false) :
    s.stale = 0 :=
  inv_run (frame_init cfg) frame_step hr hdown

/-- non-vacuity: 8 of 14 bytes of a frame arrive, the link drops and comes back; the next complete frame is delivered -/
example : ((sys (current 0)).run [.linkUp, .rxPart 8, .linkDown, .linkUp, .rx ⟨5, 5⟩, .pop 0, .handle 0]).map
    (fun s => (s.stale, s.delivered)) = some (0, [⟨5, 5⟩]) := by decide +kernel
example : ((sys (current 0)).run [.linkUp, .rxPart 8]).map (fun s => s.stale) = some 8 := by decide +kernel

/-- **What the model's routing window can and cannot do** (`handle` and `put` are separate steps; `unregister`, `register`, … may run in
between), for every schedule and every configuration:
* it cannot misroute — `routing` above is proved for the model with the split steps;
* a message is lost only if it carries the system bytes of a caller that has **left** `send_and_waitfor_response` (`Ended`): a reply to a
  request that is still waiting is never lost;
* with reply-only routing (the code as it is) no primary message is ever put to a queue or lost: every handled primary went to the
  application. -/
theorem routing_window (cfg : Cfg) (sched : List Step) (s : State) (hr : (sys cfg).run sched = some s) :
    (∀ m ∈ s.lost, Ended s m.sys)
    ∧ (cfg.replyOnly = true → (∀ m ∈ s.lost, m.primary = false) ∧ (∀ e ∈ s.handled, e.1.primary = true → e.2 = false)) := by
  have inv : LossInv cfg s := inv_run (loss_init cfg) loss_step hr
  exact ⟨fun m hm => (inv.lostDone m hm).1, fun hro => ⟨fun m hm => (inv.lostDone m hm).2 hro, inv.prim hro⟩⟩

/-- **Routing by system bytes alone (`current`) loses an inbound primary that re-uses the system bytes of a request that is just timing
out**: the dispatcher's test finds 101 registered, the caller times out and runs `_remove_queue`, the `put` finds no entry: the message
(S6F11, odd tag = primary) reaches neither a caller nor the application. -/
theorem witness_routing_window :
    ((sys (current 100)).run [.linkUp, .alloc 0, .register 0, .send 0, .rx ⟨101, 1547⟩, .pop 0, .handle 0, .timeout 0, .unregister 0, .put 0]).map
      (fun s => (s.lost, s.delivered, (s.callers 0).result, s.q 0, s.inbox)) = some ([⟨101, 1547⟩], [], none, [], []) := by decide +kernel

/-- without any race: under `current` the same primary arriving while the request is outstanding is handed to the caller as its "reply",
never to the application -/
theorem witness_primary_to_caller :
    ((sys (current 100)).run [.linkUp, .alloc 0, .register 0, .send 0, .rx ⟨101, 1547⟩, .pop 0, .handle 0, .put 0, .recv 0, .unregister 0]).map
      (fun s => ((s.callers 0).result, s.delivered)) = some (some ⟨101, 1547⟩, []) := by decide +kernel

/-- … and put to the queue of a caller that has already timed out it is discarded with the queue -/
theorem witness_primary_dropped_with_queue :
    ((sys (current 100)).run [.linkUp, .alloc 0, .register 0, .send 0, .rx ⟨101, 1547⟩, .pop 0, .timeout 0, .handle 0, .put 0, .unregister 0]).map
      (fun s => ((s.callers 0).result, s.delivered, s.q 0, s.reg 101)) = some (none, [], [⟨101, 1547⟩], none) := by decide +kernel

/-- with reply-only routing, the code as it is, the first of these schedules hands the primary to the application, and after `handle` the
`put` step is not enabled -/
theorem witness_primary_reply_only :
    ((sys (replyOnly 100)).run [.linkUp, .alloc 0, .register 0, .send 0, .rx ⟨101, 1547⟩, .pop 0, .handle 0, .timeout 0, .unregister 0]).map
      (fun s => (s.lost, s.delivered)) = some ([], [⟨101, 1547⟩])
    ∧ (sys (replyOnly 100)).run [.linkUp, .alloc 0, .register 0, .send 0, .rx ⟨101, 1547⟩, .pop 0, .handle 0, .put 0] = none := by decide +kernel

/-- **Without the lock** (allocator split into read-modify-write and read-return): the schedule
`.allocRmw 0, .allocRmw 1, .allocRet 0, .allocRet 1` gives two outstanding requests the same system bytes. -/
theorem witness_counter :
    ((sys { atomic := false, patched := false, c0 := 100 }).run [.allocRmw 0, .allocRmw 1, .allocRet 0, .allocRet 1]).map
      (fun s => ((s.callers 0).id, (s.callers 1).id, (s.callers 0).pc.hasId, (s.callers 1).pc.hasId)) = some (102, 102, true, true) := by
  decide +kernel

/-- … and then one caller gets no reply although one arrived, and its `_remove_queue` raises `KeyError` -/
theorem witness_counter_lost_reply :
    ((sys { atomic := false, patched := false, c0 := 100 }).run [.linkUp, .allocRmw 0, .allocRmw 1, .allocRet 0, .allocRet 1, .register 0, .register 1,
        .send 0, .send 1, .rx ⟨102, 1⟩, .pop 0, .handle 0, .put 0, .recv 1, .unregister 1, .timeout 0, .unregister 0]).map
      (fun s => ((s.callers 0).result, (s.callers 0).keyErr, (s.callers 1).result)) = some (none, true, some ⟨102, 1⟩) := by
  decide +kernel

/-- **The code as it is, after one reconnect**: two dispatcher threads are live; two unsolicited messages are handled concurrently
and reach the application in the opposite order of their arrival. -/
theorem witness_two_dispatchers :
    ((sys (current 0)).run [.linkUp, .linkDown, .linkUp, .rx ⟨1, 1⟩, .rx ⟨2, 2⟩, .pop 0, .pop 1, .handle 1, .handle 0]).map
      (fun s => (s.arrived, s.delivered, live s, busy s, s.everTwo)) = some ([⟨1, 1⟩, ⟨2, 2⟩], [⟨2, 2⟩, ⟨1, 1⟩], 2, 2, true) := by
  decide +kernel

/-- the same schedule is impossible with the stop token: the first thread is stopped and takes nothing -/
theorem witness_two_dispatchers_patched :
    (sys (patched 0)).run [.linkUp, .linkDown, .linkUp, .rx ⟨1, 1⟩, .rx ⟨2, 2⟩, .pop 0] = none := by decide +kernel

end SecsModel.Props.C06
