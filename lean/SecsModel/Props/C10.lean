import SecsModel.Proofs.HsmsTcpSend
import SecsModel.Proofs.HsmsRx
import SecsModel.Gen.HsmsGuards
import SecsModel.Gen.BlockSend
/-!
# C10 — The TCP transport delivers every accepted byte exactly once and in order

`Model.TcpSend` is the hand model of `TcpConnection.send_data` and of `HsmsProtocol._process_send_queue`; the socket is an oracle list.
What the kernel does with the bytes `send()` accepted (in-order, exactly-once delivery of a TCP stream) is *assumed*, not modelled:
the theorems speak about the byte sequence handed to the socket.
-/
namespace SecsModel.Props.C10
open SecsModel SecsModel.Model.TcpSend SecsModel.Proofs.HsmsTcpSend SecsModel.Model.Rx SecsModel.Proofs.HsmsRx

/-- the packet size extracted from `HsmsProtocol.send_packet_size` is positive (a zero size would make the slicing `range` raise) -/
theorem packet_size_pos : 0 < packetSize := by decide

/-- **what `close()` does to accepted bytes is the kernel's default**: the only socket options the TCP connection classes set are
`SO_KEEPALIVE` on the connected/accepted socket and `SO_REUSEADDR` on the listener — in particular no `SO_LINGER`, which would let a local
close discard bytes `send()` has already accepted (the theorems below speak about the bytes handed to the socket; that those arrive is the
assumed behaviour of TCP *with default close semantics*) -/
theorem socket_options :
    Gen.HsmsGuards.sockOpts =
      [("tcp_client_connection.py", "self._socket", "socket.SOL_SOCKET", "socket.SO_KEEPALIVE"),
       ("tcp_server_connection.py", "self._server_sock", "socket.SOL_SOCKET", "socket.SO_REUSEADDR"),
       ("tcp_server_connection.py", "self._socket", "socket.SOL_SOCKET", "socket.SO_KEEPALIVE")] := rfl

/-- **One writer** (generated fact): the only method of `Protocol` / `HsmsProtocol` that calls `self._connection.send_data` is
`_process_send_queue` — every `send_*` goes through `send_message` and the send queue, so the packets of a block are written back to back by
one thread (`sendBlock`/`processQueue` are the whole story of what reaches the socket) and no frame can land between two partial writes of
another. -/
theorem single_writer : Gen.HsmsGuards.sendDataCallers = ["HsmsProtocol._process_send_queue"] := rfl

/-- **`send_message` says True only for what `_process_send_queue` resolved True** (generated facts of `Gen.BlockSend`, shared with C17:
`BlockSendInfo.wait` waits on the result event *without a time-out* and returns `_result == SENT_OK`; `resolve(bool)` maps True/False to
SENT_OK/SENT_ERROR; `Protocol.send_message` queues every block, waits for each and stops with False at the first that is not True).
`block_resolve`, `queue_blocks` and `compose_with_framing` speak about "resolved True"; this is the link from there to the value the caller
of `send_message` / `send_response` / `send_and_waitfor_response` sees.  A bounded wait, or a result test that lets the initial NOT_SENT
state count as success, re-opens it. -/
theorem send_message_truthful :
    Gen.BlockSend.waitUnbounded = true ∧ Gen.BlockSend.waitReturnsSentOk = true ∧ Gen.BlockSend.resolveMapsBool = true
      ∧ Gen.BlockSend.sendWaitsEveryBlock = true := by decide

/-- **send all or report failure — all data, all socket behaviours.**  Whatever the socket answers (short writes of any size, `EWOULDBLOCK`,
`select` time-outs, errors, in any order): the bytes handed to the socket are always a prefix of `data` (in order, nothing duplicated);
`True` is returned only when that prefix is all of `data`; `False` only after the socket raised a real error. -/
theorem send_all_or_false (d : Bytes) (o : List SockAns) :
    (sendData d o).written <+: d
    ∧ ((sendData d o).outcome = .ok → (sendData d o).written = d)
    ∧ ((sendData d o).outcome = .fail → ∃ pre, o = pre ++ .error :: (sendData d o).rest ∧ ∀ a ∈ pre, a ≠ .error) :=
  ⟨(sendData_sent d o).pre, (sendData_sent d o).all, sendData_fail d o⟩

/-- **no false failure / no endless loop when the peer drains**: without socket errors, once the socket has been written to and has taken
`len(data)` bytes in total (however slowly), `send_data` returns `True` -/
theorem send_completes (d : Bytes) (o : List SockAns) (hne : ∀ a ∈ o, a ≠ .error) (hacc : ∃ k, SockAns.accept k ∈ o)
    (hs : d.length ≤ (o.map gain).sum) : (sendData d o).outcome = .ok ∧ (sendData d o).written = d := by
  have h := sendData_completes d o hne hacc hs
  exact ⟨h, (sendData_sent d o).all h⟩

/-- non-vacuity: ten bytes against a socket that takes three bytes per call, with an `EWOULDBLOCK` and a `select` time-out in between -/
example : sendData [0, 1, 2, 3, 4, 5, 6, 7, 8, 9] [.accept 3, .wouldBlock, .accept 3, .selTimeout, .accept 3, .accept 3, .accept 3]
    = ⟨.ok, [0, 1, 2, 3, 4, 5, 6, 7, 8, 9], [.accept 3]⟩ := by decide
/-- … and an error after six bytes: `False`, six bytes (a prefix) written -/
example : sendData [0, 1, 2, 3, 4, 5, 6, 7, 8, 9] [.accept 3, .accept 3, .error, .accept 3]
    = ⟨.fail, [0, 1, 2, 3, 4, 5], [.accept 3]⟩ := by decide

/-- **witness for the repaired defect** (F-14 in DESIGN.md; the line `fixed: property=C10 19626c2` of `known_findings.txt`): a `send_data`
that ignores the return value of `sock.send` reports `True` with three of ten bytes written — the model distinguishes the two -/
theorem short_write_witness :
    sendDataIgnoringShortWrite [0, 1, 2, 3, 4, 5, 6, 7, 8, 9] [.accept 3] = ⟨.ok, [0, 1, 2], []⟩
    ∧ (sendData [0, 1, 2, 3, 4, 5, 6, 7, 8, 9] [.accept 3]).outcome = .pending := by decide

/-- **packet split**: the slices `_process_send_queue` cuts a block into concatenate to the block, for the generated packet size -/
theorem packets_concat (d : Bytes) : (Model.SecsI.chunks packetSize d).flatten = d :=
  Proofs.SecsI.chunks_flatten packet_size_pos d

/-- **a block resolved `True` was written completely and in order**; in every case what was written is a prefix of the block -/
theorem block_resolve (d : Bytes) (o : List SockAns) :
    (sendBlock packetSize d o).written <+: d ∧ ((sendBlock packetSize d o).outcome = .ok → (sendBlock packetSize d o).written = d) :=
  ⟨(sendBlock_sent packetSize packet_size_pos d o).pre, (sendBlock_sent packetSize packet_size_pos d o).all⟩

/-- non-vacuity of the split with a small size: 5 bytes in packets of 2, the socket taking one byte per call -/
example : sendBlock 2 [1, 2, 3, 4, 5] [.accept 1, .accept 1, .accept 1, .accept 1, .accept 1] = ⟨.ok, [1, 2, 3, 4, 5], []⟩ := by
  decide +kernel

/-- **every queued block gets its own, truthful result — all socket behaviours.**  One run of `_process_send_queue` (which goes on with the
next block after a failed one): for each block taken from the queue the bytes written for it are a prefix of it, and all of it if it was
resolved `True`; unless the oracle ran out inside a send, every block of the queue is resolved and the queue is empty. -/
theorem queue_blocks (q : List Bytes) (o : List SockAns) :
    (processQueue packetSize q o).resolved.length ≤ q.length
    ∧ (processQueue packetSize q o).parts.length = (processQueue packetSize q o).resolved.length + (if (processQueue packetSize q o).pending then 1 else 0)
    ∧ (∀ x ∈ List.zip (processQueue packetSize q o).parts q, x.1 <+: x.2)
    ∧ (∀ x ∈ List.zip (processQueue packetSize q o).resolved (List.zip (processQueue packetSize q o).parts q), x.1 = true → x.2.1 = x.2.2)
    ∧ ((processQueue packetSize q o).pending = false → (processQueue packetSize q o).resolved.length = q.length ∧ (processQueue packetSize q o).queue = []) :=
  processQueue_blocks packetSize packet_size_pos q o

/-- **the queue keeps order** (socket that stays failed once it failed — `ECONNRESET`, `EPIPE`): the byte stream of one run is the leading
blocks resolved `True`, complete and in queue order, followed by a prefix of the block that failed / is still being sent, and nothing of any
later block -/
theorem queue_in_order (q : List Bytes) (o : List SockAns) (hst : Sticky o) :
    let r := processQueue packetSize q o
    let n := leadTrue r.resolved
    ∃ part t, r.written = (q.take n).flatten ++ part ∧ (q.drop n).head?.getD [] = part ++ t
      ∧ (r.resolved = List.replicate q.length true → part = [] ∧ r.queue = [] ∧ r.pending = false) ∧ n ≤ q.length :=
  processQueue_written packetSize packet_size_pos q o hst

/-- non-vacuity: sticky oracles exist with and without an error; three blocks, the socket breaks inside the second -/
example : Sticky [.accept 3, .wouldBlock, .accept 5] ∧ Sticky [.accept 3, .error, .error] ∧ ¬ Sticky [.error, .accept 1] := by
  refine ⟨trivial, ?_, ?_⟩
  · intro a ha; simp at ha; exact ha
  · intro h; have := h (.accept 1) (by simp); cases this
example :
    let r := processQueue 4 [[1, 2], [3, 4, 5], [6]] [.accept 2, .accept 1, .error, .error, .error]
    r.resolved = [true, false, false] ∧ r.parts = [[1, 2], [3], []] ∧ r.queue = [] ∧ r.pending = false ∧ leadTrue r.resolved = 1 := by
  decide +kernel

/-- **regression witness for the repaired defect** (`fixed:` 8ac2aeb): the loop that *returned* after a failed block left the blocks behind
it in the queue, unresolved — the loop that exists resolves every one of them -/
theorem returning_loop_strands_queue :
    (processQueueReturning 4 [[1, 2], [3, 4, 5], [6]] [.accept 2, .error, .error]).queue = [[6]]
    ∧ (processQueueReturning 4 [[1, 2], [3, 4, 5], [6]] [.accept 2, .error, .error]).resolved = [true, false]
    ∧ (processQueue 4 [[1, 2], [3, 4, 5], [6]] [.accept 2, .error, .error]).queue = []
    ∧ (processQueue 4 [[1, 2], [3, 4, 5], [6]] [.accept 2, .error, .error]).resolved = [true, false, false] := by decide +kernel

/-- **composition with C04.**  Valid HSMS blocks are queued; the socket behaves in any way but stays failed once it failed; the peer reads the written stream in any
segmentation and runs the receive loop of `Model.Rx`.  Then every leading block resolved `True` is delivered to the peer — exactly once, in order —
what is delivered is always a prefix of what was queued, no run of the peer's loop meets an undecodable frame, and if all blocks were
resolved `True` the peer has exactly the queued blocks and an empty buffer. -/
theorem compose_with_framing (bs : List Block) (hv : ∀ b ∈ bs, Valid b) (o : List SockAns) (hst : Sticky o) (chunks : List Bytes)
    (hc : chunks.flatten = (processQueue packetSize (bs.map frameOf) o).written) :
    let r := processQueue packetSize (bs.map frameOf) o
    let n := leadTrue r.resolved
    let s := chunks.foldl feed Rx.init
    bs.take n <+: s.delivered ∧ s.delivered <+: bs ∧ s.aborts = 0
      ∧ (r.resolved = List.replicate bs.length true → s = ⟨[], bs, 0⟩) := by
  intro r n s
  -- the written stream is a byte prefix of `wire bs`, so `foldl_feed_prefix` says where the peer's receiver is
  obtain ⟨hlead, ⟨q, hq⟩, hfull⟩ := processQueue_stream packetSize packet_size_pos (bs.map frameOf) o hst
  obtain ⟨(hs : s = _), hpre⟩ := foldl_feed_prefix bs hv r.written q hq chunks hc
  rw [hs]
  refine ⟨?_, hpre, rfl, fun hrep => ?_⟩
  · obtain ⟨part, hp⟩ := hlead
    have hw : r.written = wire (bs.take n) ++ part := by rw [← hp, ← List.map_take]; rfl
    rw [hw, extract_wire _ (fun b hb => hv b (List.mem_of_mem_take hb))]
    exact List.prefix_append _ _
  · have hw : r.written = wire bs := hfull (by rw [List.length_map]; exact hrep)
    rw [hw, extract_wire_nil bs hv]

example : Sticky (List.replicate 7 (SockAns.accept 5)) := by simp [List.replicate, Sticky]

/-- non-vacuity of the composition: two blocks, a socket that takes 5 bytes per call, the peer reading 4-byte segments -/
example :
    let b1 : Block := ⟨⟨0x01020304, 0, 1, 13, true, 0, 0⟩, [1, 2, 3]⟩
    let b2 : Block := ⟨⟨7, 0xFFFF, 0, 0, false, 0, 5⟩, []⟩
    let r := processQueue packetSize [frameOf b1, frameOf b2] (List.replicate 7 (.accept 5))
    r.resolved = [true, true] ∧ (Model.SecsI.chunks 4 r.written).foldl feed Rx.init = ⟨[], [b1, b2], 0⟩ := by
  decide +kernel

end SecsModel.Props.C10
