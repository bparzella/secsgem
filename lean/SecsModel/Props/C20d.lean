import SecsModel.Props.C01
import SecsModel.Props.C04
import SecsModel.Props.C16
/-!
# C20d — wire-level agreement: what one endpoint's application hands over is what the other endpoint's application decodes

The C20 statement ends in "agree on data".  The message-level part of that is `Props/C20.lean` (`service_agreement`,
`events_exactly_once`) and `Props/C20c.lean`; this file is the *stack composition underneath*: the codec theorem of C01
(`Model.Var.encode` / `decodeAs`), the framing theorem of C04 (`HsmsBlock.encode`, the receive loop under any TCP segmentation) and,
for the SECS-I transport, the block theorems of C16 (split, checksum, reassembly under any interleaving) are composed into one
statement per transport that starts at the sender's value and ends at the receiver's value.  Nothing is assumed between the
layers: the bytes the codec model produces are the bytes the framing model carries.

Every model used here is tied to the code by its own property's check (C01, C04, C16); this file adds no model of its own.
-/
namespace SecsModel.Props.C20d
open SecsModel SecsModel.Spec.E5 SecsModel.Model.Var
open SecsModel.Proofs.CodecVarDec SecsModel.Proofs.CodecRound SecsModel.Proofs.CodecElem

/-- a message as the sending application hands it to `send_stream_function` / `send_response`: the transport header, the value of
the function's body and the structure the receiving side decodes it into (its catalogue entry for the same stream/function) -/
structure Msg (H : Type) where
  header : H
  value : Val
  struct : Struct

/-- the codec part of both compositions: a value that meets C01's hypotheses decodes, from its own encoding alone, to its normal
form, consuming it entirely -/
theorem decode_whole {v : Val} {st : Struct} {body : Bytes} (ha : Accepted v) (hn : NoNaN v) (hc : Conforms st v)
    (he : Model.Var.encode v = .ok body) : decodeAs st body 0 = .ok (norm v, body.length) := by
  simpa using C01.roundtrip v st ha hn hc _ he [] [] .nil

section hsms
open SecsModel.Gen SecsModel.Model.Rx SecsModel.Proofs.HsmsHdr SecsModel.Proofs.HsmsRx

/-- what the sender may be asked to send: a value the variable types accept (no NaN), that conforms to the receiver's structure, under
an in-range header, whose encoding fits the 32-bit HSMS length field -/
structure HsmsOk (m : Msg HsmsHeader) (body : Bytes) : Prop where
  header : InRange m.header
  accepted : Accepted m.value
  nonan : NoNaN m.value
  conforms : Conforms m.struct m.value
  encoded : Model.Var.encode m.value = .ok body
  fits : 10 + body.length < 2 ^ 32

/-- **HSMS, sender value → receiver value, any segmentation.**  A sequence of messages, each encoded by the variables API and framed by
`HsmsBlock.encode`, the concatenated frames cut into TCP segments in *any* way: the receive loop delivers exactly one block per message,
in order, nothing is left in the buffer, no run of the loop aborts, the frames on the wire are the E37 frames — and decoding the body of
the `i`-th delivered block into the receiver's structure yields the `i`-th value (F4 elements rounded to binary32, nothing else changed),
consuming exactly the body. -/
theorem hsms_end_to_end (ms : List (Msg HsmsHeader)) (bodies : List Bytes) (hlen : bodies.length = ms.length)
    (hok : ∀ i (hi : i < ms.length), HsmsOk ms[i] (bodies[i]'(hlen ▸ hi)))
    (chunks : List Bytes) :
    let blocks : List Block := (ms.zip bodies).map (fun p => ⟨p.1.header, p.2⟩)
    (∀ b ∈ blocks, b.encode = .ok (frameOf b)) ∧
    (chunks.flatten = wire blocks →
      chunks.foldl feed Rx.init = ⟨[], blocks, 0⟩ ∧
      ∀ i (hi : i < ms.length), ∃ b, blocks[i]? = some b ∧ b.header = ms[i].header ∧
        decodeAs ms[i].struct b.data 0 = .ok (norm ms[i].value, b.data.length)) := by
  intro blocks
  have hbl : blocks.length = ms.length := by simp [blocks, hlen]
  have hget : ∀ i (hi : i < ms.length), blocks[i]? = some ⟨ms[i].header, bodies[i]'(hlen ▸ hi)⟩ := by
    intro i hi
    have hz : (ms.zip bodies)[i]? = some (ms[i], bodies[i]'(hlen ▸ hi)) :=
      List.getElem?_zip_eq_some.mpr ⟨List.getElem?_eq_getElem hi, List.getElem?_eq_getElem (hlen ▸ hi)⟩
    simp only [blocks, List.getElem?_map, hz, Option.map_some]
  have hvalid : ∀ b ∈ blocks, Valid b := by
    intro b hb
    obtain ⟨i, hi, rfl⟩ := List.getElem_of_mem hb
    have hi' : i < ms.length := hbl ▸ hi
    rw [Option.some.inj ((List.getElem?_eq_getElem hi).symm.trans (hget i hi'))]
    exact ⟨(hok i hi').header, (hok i hi').fits⟩
  refine ⟨fun b hb => encode_exact b (hvalid b hb), fun hc => ⟨C04.segmentation blocks hvalid chunks hc, ?_⟩⟩
  intro i hi
  have o := hok i hi
  exact ⟨_, hget i hi, rfl, decode_whole o.accepted o.nonan o.conforms o.encoded⟩

def m1 : Msg HsmsHeader :=
  ⟨⟨0xFFFFFFFF, 0xFFFF, 127, 255, true, 0, 0⟩, C01.sample,
   .record [.leaf .u8 1, .dyn [.arr] (-1), .leaf .a 3, .leaf .j (-1), .dyn [] 2, .leaf .b (-1)]⟩
def body1 : Bytes := [0x01, 0x06, 0xA1, 0x08, 0xFF, 0xFF, 0xFF, 0xFF, 0xFF, 0xFF, 0xFF, 0xFF, 0x01, 0x02, 0x61, 0x08, 0x80, 0, 0, 0, 0, 0, 0, 0,
    0x01, 0x01, 0x91, 0x08, 0x3D, 0xCC, 0xCC, 0xCD, 0x7F, 0x7F, 0xFF, 0xFF, 0x41, 0x03, 72, 105, 255, 0x45, 0x02, 0x5C, 0xA1, 0x25, 0x02, 1, 0, 0x21, 0x00]

-- non-vacuity: the hypotheses are met by the C01 sample value (three-level nesting, U8 maximum, F4 = 0.1, text) under a maximal header
example : HsmsOk m1 body1 where
  header := by decide
  accepted := C01.sample_accepted
  nonan := C01.sample_noNaN
  conforms := C01.sample_conforms
  encoded := C01.sample_encoded
  fits := by decide

end hsms

section secsi
open SecsModel.Gen SecsModel.Model.SecsI SecsModel.Proofs.SecsIHdr SecsModel.Proofs.SecsI SecsModel.Proofs.SecsIReasm

/-- as `HsmsOk`, for the SECS-I transport: the body must fit E4's 32767 blocks of 244 bytes -/
structure SecsIOk (m : Msg SecsIHeader) (body : Bytes) : Prop where
  header : InRange m.header
  accepted : Accepted m.value
  nonan : NoNaN m.value
  conforms : Conforms m.struct m.value
  encoded : Model.Var.encode m.value = .ok body
  fits : body.length ≤ 244 * 32767

/-- every block `_split_blocks` produces for an in-range header and a body of at most 32767 blocks can go on the line -/
theorem split_block_ok (h : Header) (body : Bytes) (hr : InRange h) (hab : AllBytes body) (hsz : body.length ≤ 244 * 32767) :
    ∀ b ∈ split h body, InRange b.header ∧ AllBytes b.data ∧ b.data.length ≤ 244 := by
  intro b hb
  obtain ⟨hflat, hlen, hle, hidx⟩ := C16.split_correct h body
  refine ⟨?_, ?_, hle b hb⟩
  · obtain ⟨j, hj, rfl⟩ := List.getElem_of_mem hb
    have := hidx j hj
    rw [List.getElem?_eq_getElem hj, Option.map_some] at this
    have e := Option.some.inj this
    rw [e]
    have hj' : j + 1 ≤ 32767 := by omega
    exact ⟨hr.system, hr.device, hr.stream, hr.function, ⟨by simp only; omega, by simp only; omega⟩⟩
  · intro x hx
    apply hab
    rw [← hflat]
    exact List.mem_flatten.mpr ⟨b.data, List.mem_map.mpr ⟨b, hb, rfl⟩, hx⟩

/-- **SECS-I, sender value → receiver value, any interleaving.**  Any number of messages with pairwise distinct system bytes, each
encoded by the variables API and cut by `_split_blocks`; their blocks put on the line in *any* interleaving that keeps each message's
own order.  Then every block on the line encodes to a frame (length byte, header, data, checksum) that decodes back to the block, and
the receiver's `_add_message_block` completes, under the system bytes of message `i`, exactly one message; nothing stays pending for
it; and decoding the completed message's data into the receiver's structure yields the `i`-th value (F4 elements rounded to binary32),
consuming exactly the data.  Nothing is completed under any other system bytes. -/
theorem secsi_end_to_end (ms : List (Msg SecsIHeader × Bytes)) (hok : ∀ p ∈ ms, SecsIOk p.1 p.2)
    (hnd : (ms.map (·.1.header.system)).Nodup) (bs : List Block)
    (hI : Interleaving (ms.map (fun p => split p.1.header p.2)) bs) :
    (∀ b ∈ bs, ∃ raw, Block.encode b = .ok raw ∧ raw.length = b.data.length + 13 ∧ AllBytes raw ∧ Block.decode raw = .ok (some b))
    ∧ (∀ i (hi : i < ms.length), ∃ m : Message,
        ((reassembleK [] bs).2.filter (·.1 == ms[i].1.header.system)).map (·.2) = [m]
        ∧ (reassemble [] bs).1.lookup ms[i].1.header.system = none
        ∧ decodeAs ms[i].1.struct (Message.data m) 0 = .ok (norm ms[i].1.value, (Message.data m).length))
    ∧ (∀ e ∈ (reassembleK [] bs).2, ∃ i, ∃ (hi : i < ms.length), e.1 = ms[i].1.header.system)
    ∧ (reassembleK [] bs).2.map (·.2) = (reassemble [] bs).2 := by
  let ms' : List (Header × Bytes) := ms.map (fun p => (p.1.header, p.2))
  have hI' : Interleaving (ms'.map (fun m => split m.1 m.2)) bs := by
    simpa only [ms', List.map_map, Function.comp_def] using hI
  have hnd' : (ms'.map (·.1.system)).Nodup := by
    simpa only [ms', List.map_map, Function.comp_def] using hnd
  have hl' : ms'.length = ms.length := by simp [ms']
  obtain ⟨h1, h2, h3⟩ := C16.reassembly ms' hnd' bs hI'
  refine ⟨?_, ?_, ?_, h3⟩
  · intro b hb
    obtain ⟨l, hl, hbl⟩ := mem_of_interleaving _ bs hI' b hb
    simp only [ms', List.map_map, List.mem_map, Function.comp_def] at hl
    obtain ⟨p, hp, rfl⟩ := hl
    have o := hok p hp
    have hab : AllBytes p.2 := encode_allBytes p.1.value p.2 (by rw [← C01.encode_exact _ o.accepted]; exact o.encoded)
    obtain ⟨hr, had, hn⟩ := split_block_ok p.1.header p.2 o.header hab o.fits b hbl
    exact C16.block_roundtrip b.header b.data hr had hn
  · intro i hi
    have hi' : i < ms'.length := hl' ▸ hi
    obtain ⟨hf, hp, hd⟩ := h1 i hi'
    have hgi : ms'[i] = (ms[i].1.header, ms[i].2) := by simp [ms']
    rw [hgi] at hf hp hd
    simp only at hf hp hd
    refine ⟨_, hf, hp, ?_⟩
    rw [hd]
    have o := hok ms[i] (List.getElem_mem hi)
    exact decode_whole o.accepted o.nonan o.conforms o.encoded
  · intro e he
    obtain ⟨i, hi, hk⟩ := h2 e he
    have hi' : i < ms.length := hl' ▸ hi
    refine ⟨i, hi', ?_⟩
    rw [hk]; simp [ms']

def s1 : Msg SecsIHeader :=
  ⟨⟨0xFFFFFFFF, 0x7FFF, 127, 255, 0, true, true, true⟩, C01.sample,
   .record [.leaf .u8 1, .dyn [.arr] (-1), .leaf .a 3, .leaf .j (-1), .dyn [] 2, .leaf .b (-1)]⟩

-- non-vacuity: the C01 sample value under a maximal SECS-I header meets the hypotheses
example : SecsIOk s1 body1 where
  header := by decide
  accepted := C01.sample_accepted
  nonan := C01.sample_noNaN
  conforms := C01.sample_conforms
  encoded := C01.sample_encoded
  fits := by decide

end secsi

end SecsModel.Props.C20d
