import SecsModel.Proofs.C03Tab
import SecsModel.Proofs.SfdlTables
/-!
# C03 — every catalogued stream/function is found by its S/F numbers; pairing, flags and YAML agree

Table obligations over the generated catalogue (`Gen.Catalogue.py` from `functions/_all.py` + `sXXfYY.py`, `Gen.Catalogue.yaml`
from `functions.yaml`, `Gen.DataItems` from `data_items/`).  They are re-proved against the current source on every run: the
kernel evaluates the model (`Model.Catalogue`, `Model.Sfdl`) over every generated row (`Proofs/C03Tab.lean`).  The value round
trip of a catalogued function is in `Props/C03b.lean`.
-/
namespace SecsModel.Props.C03
open SecsModel SecsModel.Gen.Catalogue SecsModel.Model.Catalogue SecsModel.Proofs.C03Tab

/-- no two catalogued classes carry the same (stream, function) -/
theorem keys_unique : (py.map key).Nodup :=
  nodup_of_map _ (distinctNat_nodup _ py_keys_distinct)

/-- **Lookup is total and exact on the catalogue**: `StreamsFunctions.function(s, f)` with the numbers of a catalogued class
returns that class (never `None`, never the duplicate error) -/
theorem lookup_total : ∀ x ∈ py, function py x.stream x.function = .ok (some x) :=
  fun _ hx => function_of_nodup keys_unique hx

/-- everything the model's row check `rowOk` asks (lookup, structure text, pairing unless S2F49, YAML row) holds of every class row -/
theorem rows_ok : ∀ x ∈ py, rowOk py yaml x = true := by
  intro x hx
  simpa [rowOk, lookupOk, lookup_total x hx, row_format hx, row_yaml hx] using row_pairing hx

/-- every structure text of the catalogue tokenizes, names only catalogued data item classes, and `functions.generate`
builds a variable tree from it in which no array descriptor is broken -/
theorem all_parse : ∀ x ∈ py, ∀ t, x.dataFormat = some t →
    ∃ ts o, Model.Sfdl.tokenize t = .ok ts ∧ (∀ n ∈ Model.Sfdl.dataItems ts, Model.Sfdl.classKnown n = true)
      ∧ Model.Sfdl.parse t = .ok o ∧ objOk o = true := by
  intro x hx t ht
  have h := row_format hx
  rw [ht] at h
  unfold formatOk at h
  simp only at h
  split at h
  · contradiction
  next ts hts =>
    simp only [Bool.and_eq_true, List.all_eq_true] at h
    obtain ⟨hk, hg⟩ := h
    split at hg
    · contradiction
    next fmt rest hf =>
      split at hg
      next o ho => exact ⟨ts, o, hts, hk, by simp only [Model.Sfdl.parse, hts, hf, ho], hg⟩
      · contradiction

/-- **Pairing, all rows but S2F49**: a required reply is a declared reply; a primary (odd function) declares a reply exactly
when its secondary `(s, f+1)` is catalogued, and that secondary travels the opposite way; a secondary (even function) declares
neither flag -/
theorem pairing_partial : ∀ x ∈ py, isS2F49 x = false → pairRule py x = true := by
  intro x hx h49
  exact (row_pairing hx).resolve_left (by simp [h49])

/-- the excluded row violates the rule: S2F49 declares no reply although S2F50 is catalogued (finding `c03-s2f49-reply-flags`) -/
theorem witness_s2f49_reply_flags :
    ∃ x ∈ py, isS2F49 x = true ∧ pairRule py x = false ∧ x.hasReply = false ∧ (find py 2 50).isSome = true := by
  refine ⟨⟨['S', 'e', 'c', 's', 'S', '0', '2', 'F', '4', '9'], 2, 49, false, true, false, false, true, some fmt_SecsS02F49⟩, ?_⟩
  decide +kernel

/-- **YAML agrees with the classes**: the same (stream, function) keys on both sides, YAML keys unique, and for every class the
YAML row has the same five flags and a token-equal structure text -/
theorem yaml_agrees :
    (∀ x ∈ py, ∃ y ∈ yaml, key y = key x ∧ rowsAgree x y = true) ∧ (∀ y ∈ yaml, key y ∈ py.map key) ∧ (yaml.map key).Nodup := by
  refine ⟨fun x hx => ?_, fun y hy => yaml_keys_perm.subset (List.mem_map_of_mem hy), yaml_keys_perm.nodup_iff.mpr keys_unique⟩
  have h := row_yaml hx
  unfold yamlRowAgrees at h
  split at h
  · contradiction
  next y hy =>
    have hp := List.find?_some hy
    simp only [Bool.and_eq_true, beq_iff_eq] at hp
    exact ⟨y, List.mem_of_find?_eq_some hy, by simp [key, hp.1, hp.2], h⟩

/-- **Configurations are independent**: the constructors of the two containers (`StreamsFunctions`, `DataItems`) bind a copy of the
module-level catalogue list, never the list itself — `update()` on one container cannot reach another container, a settings
object created later, or the catalogue `lookup_total` speaks about (fact extracted from the constructors' source on every run) -/
theorem containers_isolated : containerCopiesCatalogue = true ∧ containerCopiesDataItems = true := by decide

/-- non-vacuity: the tables are the 134 shipped functions, 115 of them with a structure; the pairing rule has primaries with
and without reply and secondaries -/
example : py.length = 134 ∧ yaml.length = 134 ∧ (py.filter (·.dataFormat.isSome)).length = 115
    ∧ (py.filter (fun x => x.function % 2 == 1 && x.hasReply)).length = 57 := by decide +kernel

open SecsModel.Gen.DataItems in
/-- data item classes: class name = `name` attribute, names unique, the classes of the table are exactly the classes the
`data_items` package exports, each is an attribute of that module, every name is unchanged by `upper()` and none is `L` -/
theorem data_items_wellformed :
    (∀ i ∈ items, i.cls = i.name) ∧ (items.map (·.cls)).Nodup
    ∧ (∀ i ∈ items, i.cls ∈ moduleClasses) ∧ (∀ c ∈ moduleClasses, c ∈ items.map (·.cls))
    ∧ (∀ c ∈ moduleClasses, c ∈ moduleAttrs)
    ∧ (∀ c ∈ moduleClasses, Model.Sfdl.upper c = c ∧ c ≠ Model.Sfdl.capL) := by
  refine ⟨fun i hi => eq_of_beq (List.all_eq_true.mp items_cls_eq_name i hi), nodup_of_map nameCode (distinctNat_nodup _ items_cls_distinct),
    fun i hi => items_cls_perm.subset (List.mem_map_of_mem hi), fun c hc => items_cls_perm.symm.subset hc,
    fun c hc => List.contains_iff_mem.mp (Proofs.Sfdl.class_facts c hc).1, fun c hc => (Proofs.Sfdl.class_facts c hc).2⟩

end SecsModel.Props.C03
