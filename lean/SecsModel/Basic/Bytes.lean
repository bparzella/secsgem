/-!
# Basic.Bytes — big-endian byte strings over `Nat`

Bytes are `Nat`s carrying an explicit bound (`AllBytes`) in theorems; the driver converts at the
boundary.  Part of the executable model: the file imports nothing.
-/
namespace SecsModel

abbrev Bytes := List Nat

def AllBytes (bs : Bytes) : Prop := ∀ b ∈ bs, b < 256

instance (bs : Bytes) : Decidable (AllBytes bs) := by unfold AllBytes; infer_instance

theorem AllBytes.nil : AllBytes [] := fun _ h => nomatch h

theorem AllBytes.cons_iff {a : Nat} {l : Bytes} : AllBytes (a :: l) ↔ a < 256 ∧ AllBytes l := List.forall_mem_cons

theorem AllBytes.append_iff {a b : Bytes} : AllBytes (a ++ b) ↔ AllBytes a ∧ AllBytes b := List.forall_mem_append

theorem AllBytes.take {bs : Bytes} (h : AllBytes bs) (n : Nat) : AllBytes (bs.take n) :=
  fun x hx => h x (List.mem_of_mem_take hx)

theorem AllBytes.drop {bs : Bytes} (h : AllBytes bs) (n : Nat) : AllBytes (bs.drop n) :=
  fun x hx => h x (List.mem_of_mem_drop hx)

theorem AllBytes.set {l : Bytes} (hl : AllBytes l) (i : Nat) {v : Nat} (hv : v < 256) : AllBytes (l.set i v) := by
  intro x hx
  rcases List.mem_or_eq_of_mem_set hx with h | rfl
  · exact hl x h
  · exact hv

theorem AllBytes.sum_le : ∀ {bs : Bytes}, AllBytes bs → bs.sum ≤ 255 * bs.length
  | [], _ => Nat.le_refl 0
  | b :: bs, h => by
    have ⟨hb, ht⟩ := AllBytes.cons_iff.mp h
    have := ht.sum_le
    simp only [List.sum_cons, List.length_cons]
    omega

/-- `k`-byte big-endian rendering of `n mod 256^k` -/
def be : Nat → Nat → Bytes
  | 0, _ => []
  | k+1, n => (n / 256^k % 256) :: be k n

def ofBe : Bytes → Nat
  | [] => 0
  | b :: bs => b * 256 ^ bs.length + ofBe bs

@[simp] theorem be_length (k n : Nat) : (be k n).length = k := by
  induction k with
  | zero => rfl
  | succ k ih => simp [be, ih]

theorem ofBe_single (b : Nat) : ofBe [b] = b := by simp [ofBe]

theorem be_single {x : Nat} (h : x < 256) : be 1 x = [x] := by simp [be, Nat.mod_eq_of_lt h]

theorem be_allBytes : ∀ (k n : Nat), AllBytes (be k n)
  | 0, _ => .nil
  | k + 1, n => AllBytes.cons_iff.mpr ⟨Nat.mod_lt _ (by decide), be_allBytes k n⟩

theorem ofBe_be (k n : Nat) : ofBe (be k n) = n % 256^k := by
  induction k with
  | zero => simp [be, ofBe, Nat.mod_one]
  | succ k ih =>
    simp only [be, ofBe, be_length, ih]
    have h : 256^(k+1) = 256^k * 256 := by rw [Nat.pow_succ]
    rw [h, Nat.mod_mul, Nat.add_comm, Nat.mul_comm]

theorem ofBe_be_of_lt (k n : Nat) (h : n < 256^k) : ofBe (be k n) = n := by
  rw [ofBe_be, Nat.mod_eq_of_lt h]

theorem ofBe_lt (bs : Bytes) (h : AllBytes bs) : ofBe bs < 256 ^ bs.length := by
  induction bs with
  | nil => simp [ofBe]
  | cons b bs ih =>
    have ⟨hb, ht⟩ := AllBytes.cons_iff.mp h
    have ih' := ih ht
    simp only [ofBe, List.length_cons, Nat.pow_succ]
    have : b * 256 ^ bs.length ≤ 255 * 256 ^ bs.length := Nat.mul_le_mul_right _ (by omega)
    omega

theorem be_add_mul_pow (m n : Nat) {k j : Nat} (h : k ≤ j) : be k (m * 256 ^ j + n) = be k n := by
  induction k with
  | zero => rfl
  | succ k ih =>
    -- the added term is a multiple of `256^k * 256`, so it vanishes from digit `k`
    obtain ⟨d, rfl⟩ : ∃ d, j = k + 1 + d := ⟨j - (k + 1), by omega⟩
    have e : m * 256 ^ (k + 1 + d) = 256 ^ k * (256 * (m * 256 ^ d)) := by
      rw [Nat.pow_add, Nat.pow_succ]; ac_rfl
    rw [be, be, ih (by omega), e, Nat.mul_add_div (Nat.pow_pos (by decide)), Nat.mul_add_mod]

theorem be_ofBe : ∀ (bs : Bytes), AllBytes bs → be bs.length (ofBe bs) = bs
  | [], _ => rfl
  | b :: bs, h => by
    have ⟨hb, ht⟩ := AllBytes.cons_iff.mp h
    have head : (b * 256 ^ bs.length + ofBe bs) / 256 ^ bs.length % 256 = b := by
      rw [Nat.add_comm, Nat.add_mul_div_right _ _ (Nat.pow_pos (by decide)), Nat.div_eq_of_lt (ofBe_lt bs ht), Nat.zero_add,
        Nat.mod_eq_of_lt hb]
    rw [List.length_cons, be, ofBe, head, be_add_mul_pow b _ (Nat.le_refl _), be_ofBe bs ht]

theorem exists_be_append (w k : Nat) (bs : Bytes) (hb : AllBytes bs) (hl : bs.length = w + k) :
    ∃ n r, n < 256 ^ w ∧ AllBytes r ∧ r.length = k ∧ bs = be w n ++ r := by
  have hw : (bs.take w).length = w := by rw [List.length_take, hl, Nat.min_eq_left (Nat.le_add_right w k)]
  refine ⟨ofBe (bs.take w), bs.drop w, ?_, hb.drop w, by rw [List.length_drop, hl, Nat.add_sub_cancel_left], ?_⟩
  · have := ofBe_lt _ (hb.take w)
    rwa [hw] at this
  · have := be_ofBe _ (hb.take w)
    rw [hw] at this
    rw [this, List.take_append_drop]

end SecsModel
