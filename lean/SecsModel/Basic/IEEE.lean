import SecsModel.Basic.Py
/-!
# Basic.IEEE — IEEE-754 binary64 / binary32 at bit level (executable, no Mathlib)

A Python `float` is its binary64 bit pattern, a `Nat < 2^64`; a binary32 pattern is a `Nat < 2^32`.
* `round32` is `struct.pack('>f', x)`: round to nearest, ties to even, subnormal results, `OverflowError`
  when a finite double rounds to infinity.  NaN: sign kept, payload truncated, quiet bit set (what `(float)x` does on x86-64/aarch64).
* `widen` is `struct.unpack('>f', …)`: exact; a signalling NaN comes back quiet.
* `flt`, `fle` are Python's `<`, `<=` on floats: false whenever a NaN is involved; `-0.0 < 0.0` is false.

Lemmas: widening then rounding is the identity (`round32_widen`), nothing widens beyond FLT_MAX and everything up to it rounds without overflow
(`widen_le_max`, `round32_of_le_max`), and the `_min/_max` tests of the number classes as bounds on the magnitude (`range_check`, `bounds_check`).
-/
namespace SecsModel.IEEE

/-- `x / 2^k` rounded to nearest, ties to even -/
def rne (x k : Nat) : Nat :=
  if 2^k < 2 * (x % 2^k) ∨ (2 * (x % 2^k) = 2^k ∧ x / 2^k % 2 = 1) then x / 2^k + 1 else x / 2^k

def sign64 (b : Nat) : Nat := b / 2^63 % 2
def expo64 (b : Nat) : Nat := b / 2^52 % 2048
def frac64 (b : Nat) : Nat := b % 2^52

def sign32 (f : Nat) : Nat := f / 2^31 % 2
def expo32 (f : Nat) : Nat := f / 2^23 % 256
def frac32 (f : Nat) : Nat := f % 2^23

/-- magnitude bits (binary32, sign stripped) of the binary32 nearest to a *finite* double with biased exponent `e` and fraction `m`;
may be `≥ 0x7F800000` = overflow.  The biases differ by 1023 − 127 = 896 and 52 − 23 = 29 fraction bits are rounded away.  From `e = 897` on
the result is normal with exponent `e − 896`: the hidden bit `2^52` arrives as `2^23`, hence `(e − 897)·2^23 +` the rounded 24 bits (a carry out
of the fraction moves into the exponent by itself).  Below, the result is subnormal and the shift grows by `897 − e` (926 = 897 + 29); a
subnormal double (`e = 0`) has no hidden bit and counts as exponent 1. -/
def mag32 (e m : Nat) : Nat :=
  if 897 ≤ e then (e - 897) * 2^23 + rne (if e = 0 then m else 2^52 + m) 29
  else rne (if e = 0 then m else 2^52 + m) (926 - max e 1)

/-- `round32` on the sign, biased exponent and fraction of the double -/
def round32F (s e m : Nat) : Except Err Nat :=
  if e = 2047 then
    if m = 0 then .ok (s * 2^31 + 0x7F800000)
    else .ok (s * 2^31 + 0x7FC00000 + m / 2^29 % 2^22)
  else
    if 0x7F800000 ≤ mag32 e m then .error .overflow else .ok (s * 2^31 + mag32 e m)

/-- `struct.pack('>f', x)` on the binary64 pattern `b` of `x` -/
def round32 (b : Nat) : Except Err Nat := round32F (sign64 b) (expo64 b) (frac64 b)

/-- `widen` on the sign, biased exponent and fraction of the binary32.  Normal: exponent `e − 127 + 1023 = e + 896`, fraction moved up by 29.
Subnormal `m·2^-149` with leading bit `l = log2 m`: exponent `l − 149 + 1023 = l + 874`, the bits below the leading one moved to the top of the fraction. -/
def widenF (s e m : Nat) : Nat :=
  if e = 255 then
    if m = 0 then s * 2^63 + 2047 * 2^52
    else s * 2^63 + 2047 * 2^52 + 2^51 + (m % 2^22) * 2^29
  else if e = 0 then
    if m = 0 then s * 2^63
    else s * 2^63 + (Nat.log2 m + 874) * 2^52 + (m - 2^(Nat.log2 m)) * 2^(52 - Nat.log2 m)
  else s * 2^63 + (e + 896) * 2^52 + m * 2^29

/-- `struct.unpack('>f', …)[0]` as a binary64 pattern -/
def widen (f : Nat) : Nat := widenF (sign32 f) (expo32 f) (frac32 f)

def isNaN64 (b : Nat) : Bool := decide (2047 * 2^52 < b % 2^63)
def isInf64 (b : Nat) : Bool := decide (b % 2^63 = 2047 * 2^52)
def isFinite64 (b : Nat) : Bool := decide (b % 2^63 < 2047 * 2^52)
def isFinite32 (f : Nat) : Bool := decide (expo32 f ≠ 255)

/-- order key of a non-NaN double: sign-magnitude to integer (`-0.0` and `0.0` both 0) -/
def key64 (b : Nat) : Int := if sign64 b = 1 then -((b % 2^63 : Nat) : Int) else ((b % 2^63 : Nat) : Int)

/-- Python `a < b` on floats -/
def flt (a b : Nat) : Bool := !isNaN64 a && !isNaN64 b && decide (key64 a < key64 b)

/-- Python `a <= b` on floats -/
def fle (a b : Nat) : Bool := !isNaN64 a && !isNaN64 b && decide (key64 a ≤ key64 b)

/-- the largest finite binary32, as a double -/
def fltMax64 : Nat := 0x47EFFFFFE0000000

example : widen 0x7F7FFFFF = fltMax64 := by decide
example : round32 0x3FB999999999999A = .ok 0x3DCCCCCD := by rfl   -- 0.1
example : round32 0x47EFFFFFF0000000 = .error .overflow := by rfl   -- FLT_MAX + half an ulp: tie to even overflows
example : round32 0x47EFFFFFEFFFFFFF = .ok 0x7F7FFFFF := by rfl
example : round32 0x36A0000000000000 = .ok 1 := by rfl              -- 2^-149
example : round32 0x3690000000000000 = .ok 0 := by rfl              -- 2^-150: tie to even, down
example : round32 0x3690000000000001 = .ok 1 := by rfl
example : widen 1 = 0x36A0000000000000 := by decide
example : widen 0x007FFFFF = 0x380FFFFFC0000000 := by decide           -- largest subnormal
example : round32 0x380FFFFFC0000000 = .ok 0x007FFFFF := by rfl
example : round32 0x380FFFFFF0000000 = .ok 0x00800000 := by rfl     -- rounds up into the smallest normal

theorem rne_exact (q k : Nat) : rne (q * 2^k) k = q := by
  have hp : 0 < 2^k := Nat.two_pow_pos k
  have c : ¬ (2^k < 2 * 0 ∨ (2 * 0 = 2^k ∧ q % 2 = 1)) := by omega
  simp only [rne, Nat.mul_div_cancel _ hp, Nat.mul_mod_left]
  rw [if_neg c]

theorem rne_le (x k B : Nat) (h : x ≤ B * 2^k) : rne x k ≤ B := by
  have hp : 0 < 2^k := Nat.two_pow_pos k
  rcases Nat.lt_or_ge x (B * 2^k) with hlt | hge
  · have hq : x / 2^k < B := (Nat.div_lt_iff_lt_mul hp).mpr hlt
    simp only [rne]
    split <;> omega
  · have he : x = B * 2^k := by omega
    subst he
    rw [rne_exact]; exact Nat.le_refl _

theorem decomp32 (f : Nat) (hf : f < 2^32) : f = sign32 f * 2^31 + expo32 f * 2^23 + frac32 f := by
  simp only [sign32, expo32, frac32]; omega

theorem sign32_lt (f : Nat) : sign32 f < 2 := by simp only [sign32]; omega
theorem expo32_lt (f : Nat) : expo32 f < 256 := by simp only [expo32]; omega
theorem frac32_lt (f : Nat) : frac32 f < 2^23 := by simp only [frac32]; omega

theorem fields64 (s e m : Nat) (hs : s < 2) (he : e < 2048) (hm : m < 2^52) :
    sign64 (s * 2^63 + e * 2^52 + m) = s ∧ expo64 (s * 2^63 + e * 2^52 + m) = e ∧ frac64 (s * 2^63 + e * 2^52 + m) = m := by
  simp only [sign64, expo64, frac64]; omega

theorem sub_pow_mul (m k : Nat) (hk : 2^k ≤ m) (hk2 : k ≤ 52) :
    2^52 + (m - 2^k) * 2^(52 - k) = m * 2^(52 - k) := by
  have h : 2^(52 - k) * 2^k = 2^52 := Nat.pow_sub_mul_pow 2 hk2
  have h1 : 2^k * 2^(52-k) ≤ m * 2^(52-k) := Nat.mul_le_mul_right _ hk
  rw [Nat.sub_mul]
  rw [Nat.mul_comm] at h
  omega

theorem subnormal_frac_lt (m k : Nat) (hk2 : k ≤ 52) (hk3 : m < 2^(k+1)) : (m - 2^k) * 2^(52 - k) < 2^52 := by
  have hpk : 2^(52 - k) * 2^k = 2^52 := Nat.pow_sub_mul_pow 2 hk2
  have : m - 2^k < 2^k := by rw [Nat.pow_succ] at hk3; omega
  calc (m - 2^k) * 2^(52-k) < 2^k * 2^(52-k) := Nat.mul_lt_mul_of_pos_right this (Nat.two_pow_pos _)
    _ = 2^52 := by rw [Nat.mul_comm]; exact hpk

/-- A finite binary32 `(s, e, m)` widens to a pattern `s·2^63 + e'·2^52 + m'` whose exponent is at most `1150 = 254 + 896` and whose
fraction at that exponent is at most `0xFFFFFE0000000 = (2^23 − 1)·2^29`, i.e. nothing exceeds FLT_MAX (for `widen_le_max`); and rounding it
back is exact, `mag32 e' m' = e·2^23 + m` (the round-trip fact, for `round32_widen`). -/
theorem widenF_shape (s e m : Nat) (he : e < 255) (hm : m < 2^23) :
    ∃ e' m', widenF s e m = s * 2^63 + e' * 2^52 + m' ∧ e' ≤ 1150 ∧ m' < 2^52 ∧ (e' = 1150 → m' ≤ 0xFFFFFE0000000)
      ∧ mag32 e' m' = e * 2^23 + m := by
  have hne : ¬ (e = 255) := by omega
  simp only [widenF, hne, if_false]
  by_cases he0 : e = 0
  · simp only [he0, if_true]
    by_cases hm0 : m = 0
    · subst hm0
      have hz : ∀ k, rne 0 k = 0 := fun k => by simpa using rne_exact 0 k
      exact ⟨0, 0, by simp, by omega, by omega, by omega, by simp [mag32, hz]⟩
    · simp only [hm0, if_false]
      have hk1 : 2 ^ Nat.log2 m ≤ m := Nat.log2_self_le hm0
      have hk2 : Nat.log2 m < 23 := (Nat.log2_lt hm0).mpr hm
      have hk3 : m < 2 ^ (Nat.log2 m + 1) := Nat.lt_log2_self
      generalize Nat.log2 m = k at *
      have hfr := subnormal_frac_lt m k (by omega) hk3
      refine ⟨k + 874, (m - 2^k) * 2^(52 - k), rfl, by omega, hfr, by omega, ?_⟩
      simp only [mag32]
      have c1 : ¬ (k + 874 = 0) := by omega
      have c2 : ¬ (897 ≤ k + 874) := by omega
      have c3 : 926 - max (k + 874) 1 = 52 - k := by omega
      rw [if_neg c2, if_neg c1, c3, sub_pow_mul m k hk1 (by omega), rne_exact]
      omega
  · simp only [he0, if_false]
    refine ⟨e + 896, m * 2^29, rfl, by omega, by omega, by omega, ?_⟩
    simp only [mag32]
    have c1 : ¬ (e + 896 = 0) := by omega
    have c2 : 897 ≤ e + 896 := by omega
    have e1 : 2^52 + m * 2^29 = (2^23 + m) * 2^29 := by omega
    rw [if_pos c2, if_neg c1, e1, rne_exact]
    omega

theorem round32_widen (f : Nat) (hf : f < 2^32) (hfin : expo32 f ≠ 255) : round32 (widen f) = .ok f := by
  have hd := decomp32 f hf
  have hs := sign32_lt f
  have he := expo32_lt f
  have hm := frac32_lt f
  obtain ⟨e', m', hw, he', hm', _, hmag⟩ := widenF_shape (sign32 f) (expo32 f) (frac32 f) (by omega) hm
  obtain ⟨h1, h2, h3⟩ := fields64 (sign32 f) e' m' hs (by omega) hm'
  have hne : ¬ (e' = 2047) := by omega
  have hno : ¬ (0x7F800000 ≤ expo32 f * 2^23 + frac32 f) := by omega
  simp only [round32, widen, hw, h1, h2, h3, round32F]
  rw [if_neg hne, hmag, if_neg hno]
  congr 1; omega

theorem widen_le_max (f : Nat) (hfin : expo32 f ≠ 255) :
    widen f < 2^64 ∧ widen f % 2^63 ≤ fltMax64 := by
  have hs := sign32_lt f
  have he := expo32_lt f
  have hm := frac32_lt f
  obtain ⟨e', m', hw, he', hm', hmx, _⟩ := widenF_shape (sign32 f) (expo32 f) (frac32 f) (by omega) hm
  simp only [widen, hw, fltMax64]
  generalize sign32 f = s at *
  omega

theorem mag32_le (e m : Nat) (he : e ≤ 1150) (hm : m < 2^52) (hm2 : e = 1150 → m ≤ 0xFFFFFE0000000) :
    mag32 e m ≤ 0x7F7FFFFF := by
  simp only [mag32]
  by_cases c : 897 ≤ e
  · have c1 : ¬ (e = 0) := by omega
    rw [if_pos c, if_neg c1]
    by_cases c2 : e = 1150
    · have := hm2 c2
      have hb : rne (2^52 + m) 29 ≤ 2^24 - 1 := rne_le _ _ _ (by omega)
      omega
    · have hb : rne (2^52 + m) 29 ≤ 2^24 := rne_le _ _ _ (by omega)
      omega
  · rw [if_neg c]
    have hsig : (if e = 0 then m else 2^52 + m) < 2^53 := by split <;> omega
    generalize (if e = 0 then m else 2^52 + m) = sig at *
    have hk : 30 ≤ 926 - max e 1 := by omega
    generalize 926 - max e 1 = k at *
    have h30 : 2^30 ≤ 2^k := Nat.pow_le_pow_right (by decide) hk
    have h2 : sig ≤ 2^23 * 2^k := by
      calc sig ≤ 2^23 * 2^30 := by omega
        _ ≤ 2^23 * 2^k := Nat.mul_le_mul_left _ h30
    have := rne_le sig k (2^23) h2
    omega

theorem round32_of_le_max (b : Nat) (h : b % 2^63 ≤ fltMax64) :
    ∃ f, round32 b = .ok f ∧ f < 2^32 ∧ expo32 f ≠ 255 := by
  simp only [fltMax64] at h
  have hs : sign64 b < 2 := by simp only [sign64]; omega
  have he : expo64 b ≤ 1150 := by simp only [expo64]; omega
  have hm : frac64 b < 2^52 := by simp only [frac64]; omega
  have hm2 : expo64 b = 1150 → frac64 b ≤ 0xFFFFFE0000000 := by simp only [expo64, frac64]; omega
  have hmag := mag32_le _ _ he hm hm2
  have hne : ¬ (expo64 b = 2047) := by omega
  have hno : ¬ (0x7F800000 ≤ mag32 (expo64 b) (frac64 b)) := by omega
  refine ⟨sign64 b * 2^31 + mag32 (expo64 b) (frac64 b), ?_, by omega, ?_⟩
  · simp only [round32, round32F]; rw [if_neg hne, if_neg hno]
  · simp only [expo32]; omega

theorem round32_lt (b f : Nat) (h : round32 b = .ok f) : f < 2^32 := by
  have hs : sign64 b < 2 := by simp only [sign64]; omega
  simp only [round32, round32F] at h
  split at h
  · split at h
    · injection h with h; omega
    · injection h with h; omega
  · split at h
    · simp at h
    · injection h with h; omega

theorem nan_fields (b : Nat) (h : isNaN64 b = true) : expo64 b = 2047 ∧ frac64 b ≠ 0 := by
  simp only [isNaN64, decide_eq_true_eq] at h
  simp only [expo64, frac64]; omega

/-- a NaN does not raise `OverflowError` -/
theorem round32_nan (b : Nat) (h : isNaN64 b = true) : ∃ f, round32 b = .ok f := by
  obtain ⟨h1, h2⟩ := nan_fields b h
  simp only [round32, round32F, h1, if_true, h2, if_false]
  exact ⟨_, rfl⟩

theorem widen_finite (f : Nat) (h : isFinite64 (widen f) = true) : expo32 f ≠ 255 := by
  intro he
  have hs := sign32_lt f
  simp only [isFinite64, decide_eq_true_eq, widen, widenF, he, if_true] at h
  generalize sign32 f = s at *
  have hm := frac32_lt f
  generalize frac32 f = m at *
  split at h <;> omega

theorem isNaN64_false_iff (x : Nat) : isNaN64 x = false ↔ x % 2^63 ≤ 2047 * 2^52 := by
  simp only [isNaN64, decide_eq_false_iff_not]; omega

theorem key64_abs_le (x mx : Nat) : (-(mx : Int) ≤ key64 x ∧ key64 x ≤ (mx : Int)) ↔ x % 2^63 ≤ mx := by
  simp only [key64]; split <;> omega

theorem key64_pos (mx : Nat) (hmx : mx < 2^63) : key64 mx = (mx : Int) := by
  have a : ¬ (sign64 mx = 1) := by simp only [sign64]; omega
  simp only [key64, Nat.mod_eq_of_lt hmx]; rw [if_neg a]

theorem key64_neg (mx : Nat) (hmx : mx < 2^63) : key64 (2^63 + mx) = -(mx : Int) := by
  have a : sign64 (2^63 + mx) = 1 := by simp only [sign64]; omega
  have b : (2^63 + mx) % 2^63 = mx := by omega
  simp only [key64, a, b, if_true]

theorem not_nan_of_finite (b : Nat) (h : isFinite64 b = true) : isNaN64 b = false := by
  rw [isNaN64_false_iff]
  simp only [isFinite64, decide_eq_true_eq] at h
  omega

theorem not_nan_bound (mx : Nat) (hmx : mx < 2047 * 2^52) : isNaN64 (2^63 + mx) = false ∧ isNaN64 mx = false := by
  rw [isNaN64_false_iff, isNaN64_false_iff]; omega

/-- a non-NaN double passes `not (x < -mx or x > mx)` exactly when its magnitude is at most `mx` (`mx` finite, positive pattern) -/
theorem range_check (x mx : Nat) (hmx : mx < 2047 * 2^52) (hnan : isNaN64 x = false) :
    (flt x (2^63 + mx) || flt mx x) = false ↔ x % 2^63 ≤ mx := by
  obtain ⟨n1, n2⟩ := not_nan_bound mx hmx
  simp only [flt, n1, n2, hnan, key64_neg mx (by omega), key64_pos mx (by omega), Bool.not_false, Bool.true_and, Bool.or_eq_false_iff,
    decide_eq_false_iff_not, ← key64_abs_le, Int.not_lt]

/-- a non-NaN double passes `-mx <= x <= mx` exactly when its magnitude is at most `mx` (`mx` finite, positive pattern) -/
theorem bounds_check (x mx : Nat) (hmx : mx < 2047 * 2^52) (hnan : isNaN64 x = false) :
    (fle (2^63 + mx) x && fle x mx) = true ↔ x % 2^63 ≤ mx := by
  obtain ⟨n1, n2⟩ := not_nan_bound mx hmx
  simp only [fle, n1, n2, hnan, key64_neg mx (by omega), key64_pos mx (by omega), Bool.not_false, Bool.true_and, Bool.and_eq_true,
    decide_eq_true_eq, ← key64_abs_le]

/-- a NaN passes every `x < lo or x > hi` range check -/
theorem range_check_nan (x lo hi : Nat) (hnan : isNaN64 x = true) : (flt x lo || flt hi x) = false := by
  simp [flt, hnan]

end SecsModel.IEEE
