/-!
# Basic.Interleave — labelled transition systems, runs over schedules, inductive invariants

A `Sys σ ι` is a deterministic labelled transition system: `step s i = none` means that label `i`
(a thread's atomic step, or an input event) is not enabled in `s`.  A *schedule* / *history* is a
list of labels; `run` executes it from `init` and fails (`none`) as soon as a label is not enabled.
The "for all schedules" theorems of the transaction model (C06) and of the SECS-I line model (C17) are instances of `inv_of_step`,
C17's step bound of `bound_of_measure`.  `S.pre g` restricts `S` by a guard on (state, label); its runs are runs of `S` (`pre_run`).
-/
namespace SecsModel

structure Sys (σ ι : Type) where
  init : σ
  step : σ → ι → Option σ

namespace Sys
variable {σ ι : Type}

def runFrom (S : Sys σ ι) : σ → List ι → Option σ
  | s, [] => some s
  | s, i :: is => match S.step s i with
    | some s' => runFrom S s' is
    | none => none

def run (S : Sys σ ι) (is : List ι) : Option σ := S.runFrom S.init is

@[simp] theorem runFrom_nil (S : Sys σ ι) (s : σ) : S.runFrom s [] = some s := rfl

theorem runFrom_cons (S : Sys σ ι) (s : σ) (i : ι) (is : List ι) :
    S.runFrom s (i :: is) = (S.step s i).bind (fun s' => S.runFrom s' is) := by
  simp only [runFrom]; cases S.step s i <;> rfl

theorem runFrom_append (S : Sys σ ι) : ∀ (is js : List ι) (s : σ),
    S.runFrom s (is ++ js) = (S.runFrom s is).bind (fun s' => S.runFrom s' js)
  | [], _, _ => rfl
  | i :: is, js, s => by
    simp only [List.cons_append, runFrom]
    cases S.step s i with
    | none => rfl
    | some s' => exact runFrom_append S is js s'

theorem runFrom_induct (S : Sys σ ι) {R : σ → List ι → σ → Prop} (nil : ∀ s, R s [] s)
    (cons : ∀ {s i s1 is s'}, S.step s i = some s1 → R s1 is s' → R s (i :: is) s') :
    ∀ {is s s'}, S.runFrom s is = some s' → R s is s'
  | [], s, _, h => by cases h; exact nil s
  | i :: is, s, s', h => by
    rw [runFrom_cons] at h
    cases hst : S.step s i with
    | none => rw [hst] at h; cases h
    | some s1 => rw [hst] at h; exact cons hst (runFrom_induct S nil cons h)

theorem inv_from (S : Sys σ ι) (Inv : σ → Prop)
    (hs : ∀ s i s', Inv s → S.step s i = some s' → Inv s') :
    ∀ (is : List ι) (s s' : σ), Inv s → S.runFrom s is = some s' → Inv s' :=
  fun _ _ _ h hr =>
    S.runFrom_induct (R := fun s _ s' => Inv s → Inv s') (nil := fun _ h => h)
      (cons := fun hst ih h => ih (hs _ _ _ h hst)) hr h

theorem inv_of_step (S : Sys σ ι) (Inv : σ → Prop) (h0 : Inv S.init)
    (hs : ∀ s i s', Inv s → S.step s i = some s' → Inv s') :
    ∀ (is : List ι) (s : σ), S.run is = some s → Inv s :=
  fun is s hr => inv_from S Inv hs is S.init s h0 hr

theorem bound_from (S : Sys σ ι) (Inv : σ → Prop) (M : σ → Nat)
    (hs : ∀ s i s', Inv s → S.step s i = some s' → Inv s' ∧ M s' < M s) :
    ∀ (is : List ι) (s s' : σ), Inv s → S.runFrom s is = some s' → is.length + M s' ≤ M s :=
  fun _ _ _ h hr =>
    S.runFrom_induct (R := fun s is s' => Inv s → is.length + M s' ≤ M s) (nil := fun _ _ => Nat.le_of_eq (Nat.zero_add _))
      (cons := fun hst ih h => by
        have ⟨h1, hlt⟩ := hs _ _ _ h hst
        have := ih h1
        rw [List.length_cons]; omega) hr h

theorem bound_of_measure (S : Sys σ ι) (Inv : σ → Prop) (M : σ → Nat) (h0 : Inv S.init)
    (hs : ∀ s i s', Inv s → S.step s i = some s' → Inv s' ∧ M s' < M s) (is : List ι) (s : σ) (hr : S.run is = some s) :
    is.length + M s ≤ M S.init := bound_from S Inv M hs is S.init s h0 hr

def pre (S : Sys σ ι) (g : σ → ι → Bool) : Sys σ ι where
  init := S.init
  step := fun s i => if g s i then S.step s i else none

theorem pre_step {S : Sys σ ι} {g : σ → ι → Bool} {s : σ} {i : ι} {s' : σ}
    (h : (S.pre g).step s i = some s') : g s i = true ∧ S.step s i = some s' := by
  simp only [pre] at h
  cases hg : g s i with
  | false => rw [hg] at h; simp at h
  | true => rw [hg] at h; exact ⟨rfl, by simpa using h⟩

theorem pre_runFrom (S : Sys σ ι) (g : σ → ι → Bool) : ∀ (is : List ι) (s s' : σ),
    (S.pre g).runFrom s is = some s' → S.runFrom s is = some s' :=
  fun _ _ _ h =>
    (S.pre g).runFrom_induct (R := fun s is s' => S.runFrom s is = some s') (nil := fun _ => rfl)
      (cons := fun hst ih => by rw [runFrom_cons, (pre_step hst).2]; exact ih) h

theorem pre_run (S : Sys σ ι) (g : σ → ι → Bool) (is : List ι) (s : σ)
    (h : (S.pre g).run is = some s) : S.run is = some s := pre_runFrom S g is S.init s h

end Sys
end SecsModel
