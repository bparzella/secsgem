import SecsModel.Basic.Bytes
/-!
# Basic.Py — the fragment of Python semantics the translator (`tools/gen.py`) targets

Python `int` is `Int`; the bit operators are total and follow Python's two's-complement reading of
negative numbers; `struct.pack/unpack` with a literal big-endian format of unsigned fields; and
`bytes(bytearray((…)))`.  Exceptions become `Except Err`.
-/
namespace SecsModel

/-- the exception classes the models distinguish -/
inductive Err
  | valueError | structError | typeError | indexError | keyError | overflow
  | parseError | wrongSource | unknownTransition | other
deriving DecidableEq, Repr, Inhabited

def Err.name : Err → String
  | .valueError => "ValueError" | .structError => "StructError" | .typeError => "TypeError"
  | .indexError => "IndexError" | .keyError => "KeyError" | .overflow => "Overflow"
  | .parseError => "ParseError" | .wrongSource => "WrongSource"
  | .unknownTransition => "UnknownTransition" | .other => "Other"

namespace Py

/-- Python `~x` -/
def bnot (a : Int) : Int := -a - 1

/-- Python `a & b` (two's complement for negatives, via De Morgan on the non-negative complements) -/
def band (a b : Int) : Int :=
  if 0 ≤ a then
    if 0 ≤ b then ((a.toNat &&& b.toNat : Nat) : Int)
    else -- a & b = a & ~(~b) = a - (a & ~b)   with ~b ≥ 0
      a - ((a.toNat &&& (bnot b).toNat : Nat) : Int)
  else
    if 0 ≤ b then b - ((b.toNat &&& (bnot a).toNat : Nat) : Int)
    else bnot (((bnot a).toNat ||| (bnot b).toNat : Nat) : Int)

/-- Python `a | b` -/
def bor (a b : Int) : Int :=
  if 0 ≤ a ∧ 0 ≤ b then ((a.toNat ||| b.toNat : Nat) : Int)
  else bnot (band (bnot a) (bnot b))

/-- Python `a ^ b`: the bits of `a | b` that are not in `a & b`; these being a subset, removing them is subtraction -/
def bxor (a b : Int) : Int := bor a b - band a b

/-- Python `a << n` (n ≥ 0; a negative count raises in Python and is not produced by the translator) -/
def shl (a : Int) (n : Int) : Int := a * 2 ^ n.toNat

/-- Python `a >> n` (floor) -/
def shr (a : Int) (n : Int) : Int := a / 2 ^ n.toNat

theorem band_nat (a b : Nat) : band (a : Int) (b : Int) = ((a &&& b : Nat) : Int) := by
  simp [band]

theorem bor_nat (a b : Nat) : bor (a : Int) (b : Int) = ((a ||| b : Nat) : Int) := by
  simp [bor]

theorem shl_nat (a n : Nat) : shl (a : Int) (n : Int) = ((a <<< n : Nat) : Int) := by
  simp [shl, Nat.shiftLeft_eq]

theorem shr_nat (a n : Nat) : shr (a : Int) (n : Int) = ((a >>> n : Nat) : Int) := by
  simp [shr, Nat.shiftRight_eq_div_pow]

/-- `bytes(bytearray((a, b, …)))`: every element must be in `range(256)` -/
def bytesOf : List Int → Except Err Bytes
  | [] => .ok []
  | x :: xs =>
    if 0 ≤ x ∧ x < 256 then
      match bytesOf xs with
      | .ok r => .ok (x.toNat :: r)
      | .error e => .error e
    else .error .valueError

/-- `struct.pack('>…', …)` for unsigned fields given as `(width, value)`; out-of-range raises `struct.error` -/
def packBE : List (Nat × Int) → Except Err Bytes
  | [] => .ok []
  | (w, v) :: rest =>
    if 0 ≤ v ∧ v < 256 ^ w then
      match packBE rest with
      | .ok r => .ok (be w v.toNat ++ r)
      | .error e => .error e
    else .error .structError

/-- field extraction of `struct.unpack('>…', data)` once the length is known to match -/
def unpackFields : List Nat → Bytes → List Int
  | [], _ => []
  | w :: ws, data => (ofBe (data.take w) : Int) :: unpackFields ws (data.drop w)

/-- `struct.unpack('>…', data)` for unsigned fields of the given widths; a length mismatch raises `struct.error` -/
def unpackBE (ws : List Nat) (data : Bytes) : Except Err (List Int) :=
  if data.length = ws.sum then .ok (unpackFields ws data) else .error .structError

end Py
end SecsModel
