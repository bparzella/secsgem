/-!
# Spec.Sfdl — the Secs Function Definition Language as `docs/firststeps/sfdl.md` documents it

Written from the documentation, not from the code (one exception: form (A) of `namedForm` is a placement of list names
that only the function catalogue uses).

* **Data items** "are defined with their name in a set of pointed brackets": `< ACKC6 >`.
* **Lists** "are described with 'L' on the opening bracket": `< L member … >`; after the `L` an optional list name
  ("this name can be overridden, by passing the name after the L tag … also other nested lists can be named this way").
* "A list with multiple different data items is mapped to a dict or object.  This can be accessed with the data item
  name as key."  "Open lists are defined with only one data item.  They can hold multiple values with the same data type."
* Keys: a data item is found under its name; "if an open list with a single data item is nested within a fixed length
  list, the name of the nested data item is used" as key; a nested list for which "resolving the name doesn't work like
  in the previous example … is simply named `DATA`"; a name after the `L` tag overrides.
* **Comments** "start with a `#` and end with the line break"; the examples use blanks and line breaks freely.

`Def` is the grammar as a tree, `render` produces every text of a tree (one text per `Layout`), `shape` is the message
structure the documentation promises for it.
-/
namespace SecsModel.Spec.Sfdl

/-- names and texts are lists of characters -/
abbrev Name := List Char

/-- a structure definition -/
inductive Def where
  | item (name : Name)
  | list (name : Option Name) (members : List Def)
deriving Repr

/-- the documented message structure: a data item, an open array of one element structure, or a keyed record -/
inductive Struct where
  | item (name : Name)
  | array (elem : Struct)
  | record (fields : List (Name × Struct))
deriving Repr

mutual
/-- structural equality of shapes (decidable) -/
def Struct.beq : Struct → Struct → Bool
  | .item a, .item b => a == b
  | .array a, .array b => Struct.beq a b
  | .record a, .record b => Struct.beqL a b
  | _, _ => false
def Struct.beqL : List (Name × Struct) → List (Name × Struct) → Bool
  | [], [] => true
  | (k, a) :: r, (k', b) :: r' => k == k' && Struct.beq a b && Struct.beqL r r'
  | _, _ => false
end

mutual
theorem Struct.beq_iff : ∀ a b : Struct, Struct.beq a b = true ↔ a = b
  | .item a, b => by cases b <;> simp [Struct.beq]
  | .array a, b => by cases b <;> simp [Struct.beq, Struct.beq_iff a]
  | .record a, b => by cases b <;> simp [Struct.beq, Struct.beqL_iff a]
theorem Struct.beqL_iff : ∀ a b : List (Name × Struct), Struct.beqL a b = true ↔ a = b
  | [], b => by cases b <;> simp [Struct.beqL]
  | (k, a) :: r, [] => by simp [Struct.beqL]
  | (k, a) :: r, (k', b) :: r' => by simp [Struct.beqL, Struct.beq_iff a b, Struct.beqL_iff r r', and_assoc]
end

instance : DecidableEq Struct := fun a b => decidable_of_iff _ (Struct.beq_iff a b)

/-! ## characters -/

/-- blank characters that may separate tokens -/
def isWs (c : Char) : Bool := c == ' ' || c == '\t' || c == '\n' || c == '\r'
/-- the pointed brackets -/
def isOp (c : Char) : Bool := c == '<' || c == '>'
/-- a line break ends a comment -/
def isEol (c : Char) : Bool := c == '\n' || c == '\r'
/-- a character of a word (item name, `L`, list name): anything that is not blank, bracket or comment start -/
def isWordChar (c : Char) : Bool := !isWs c && !isOp c && c != '#'

/-! ## layout: what may stand in the gaps between tokens -/

inductive WsChar | space | tab | lf | cr
deriving DecidableEq, Repr

def WsChar.toChar : WsChar → Char
  | .space => ' ' | .tab => '\t' | .lf => '\n' | .cr => '\r'

inductive Eol | lf | cr
deriving DecidableEq, Repr

def Eol.toChar : Eol → Char
  | .lf => '\n' | .cr => '\r'

/-- one piece of a gap: a blank character, or a comment `# … line break` (line breaks inside the body are dropped, so
every `Piece` denotes a legal comment; CR LF is a comment ended by CR followed by the blank LF) -/
inductive Piece
  | ws (c : WsChar)
  | comment (body : List Char) (eol : Eol)
deriving DecidableEq, Repr

abbrev Gap := List Piece

def Piece.render : Piece → List Char
  | .ws c => [c.toChar]
  | .comment body e => '#' :: (body.filter (fun c => !isEol c) ++ [e.toChar])

def renderGap : Gap → List Char
  | [] => []
  | p :: g => p.render ++ renderGap g

/-- where two words meet (`L` and a list name) the gap must not be empty: an empty one is read as one blank -/
def sep (g : Gap) : Gap :=
  match g with
  | [] => [.ws .space]
  | _ => g

/-- A layout gives the gap at every position of the tree: `gap path k` is gap number `k` of the node reached from the root by
`path` (child indices).  For an item `< g0 NAME g1 >`; for a list `< g0 L g1 [NAME g2] member₀ g3 member₁ g4 … >`.
`lead`/`trail` surround the whole definition; `eof` is an optional last comment that runs to the end of the text without
a line break. -/
structure Layout where
  gap : List Nat → Nat → Gap
  lead : Gap
  trail : Gap
  eof : Option (List Char)

/-- the gaps of child `i` -/
def sub (g : List Nat → Nat → Gap) (i : Nat) : List Nat → Nat → Gap := fun p k => g (i :: p) k

mutual
/-- the text of a definition under a layout -/
def renderDef : Def → (List Nat → Nat → Gap) → List Char
  | .item n, g => '<' :: (renderGap (g [] 0) ++ (n ++ (renderGap (g [] 1) ++ ['>'])))
  | .list none ms, g => '<' :: (renderGap (g [] 0) ++ ('L' :: (renderGap (g [] 1) ++ (renderMembers ms g 0 ++ ['>']))))
  | .list (some x) ms, g =>
    '<' :: (renderGap (g [] 0) ++ ('L' :: (renderGap (sep (g [] 1)) ++ (x ++ (renderGap (g [] 2) ++ (renderMembers ms g 0 ++ ['>']))))))
def renderMembers : List Def → (List Nat → Nat → Gap) → Nat → List Char
  | [], _, _ => []
  | m :: ms, g, i => renderDef m (sub g i) ++ (renderGap (g [] (3 + i)) ++ renderMembers ms g (i + 1))
end

/-- the complete text -/
def render (d : Def) (ly : Layout) : List Char :=
  renderGap ly.lead ++ (renderDef d ly.gap ++ (renderGap ly.trail ++
    (match ly.eof with | none => [] | some body => '#' :: body.filter (fun c => !isEol c))))

/-! ## tokens -/

mutual
/-- the words and brackets of a definition, in order -/
def tokensOf : Def → List Name
  | .item n => [['<'], n, ['>']]
  | .list nm ms => ['<'] :: ['L'] :: ((match nm with | none => [] | some x => [x]) ++ (tokensOfList ms ++ [['>']]))
def tokensOfList : List Def → List Name
  | [] => []
  | m :: ms => tokensOf m ++ tokensOfList ms
end

/-! ## the documented shape -/

def dataKey : Name := ['D', 'A', 'T', 'A']

/-- the key under which a member of a fixed length list is found -/
def key : Def → Name
  | .item n => n
  | .list (some x) _ => x
  | .list none [.item n] => n
  | .list none _ => dataKey

mutual
/-- a list with one member is an open array of that member, a list with several members a record keyed by `key` -/
def shape : Def → Struct
  | .item n => .item n
  | .list _ [m] => .array (shape m)
  | .list _ ms => .record (shapeFields ms)
def shapeFields : List Def → List (Name × Struct)
  | [] => []
  | m :: ms => (key m, shape m) :: shapeFields ms
end

/-! ## well-formedness of a tree (decidable: Boolean functions, the propositions are `… = true`) -/

def isWord (w : Name) : Bool := !w.isEmpty && w.all isWordChar

mutual
/-- every item name and list name is a word -/
def wordsOk : Def → Bool
  | .item n => isWord n
  | .list nm ms => (match nm with | none => true | some x => isWord x) && wordsOkL ms
def wordsOkL : List Def → Bool
  | [] => true
  | m :: ms => wordsOk m && wordsOkL ms
end

mutual
/-- every list has at least one member (the documentation shows no empty list) -/
def nonEmptyLists : Def → Bool
  | .item _ => true
  | .list _ ms => !ms.isEmpty && nonEmptyListsL ms
def nonEmptyListsL : List Def → Bool
  | [] => true
  | m :: ms => nonEmptyLists m && nonEmptyListsL ms
end

/-- pairwise different -/
def distinct : List Name → Bool
  | [] => true
  | k :: ks => !ks.contains k && distinct ks

/-- the keys of the members of one list -/
def keysOf : List Def → List Name
  | [] => []
  | m :: ms => key m :: keysOf ms

mutual
/-- in every list the members' keys are pairwise different (the documentation does not say what a repeated key means) -/
def keysDistinct : Def → Bool
  | .item _ => true
  | .list _ ms => distinct (keysOf ms) && keysDistinctL ms
def keysDistinctL : List Def → Bool
  | [] => true
  | m :: ms => keysDistinct m && keysDistinctL ms
end

/-- a further member of a named fixed length list (form (A) of `namedForm`): a data item, a list with its own name, or an
unnamed list of lists -/
def okUnderName : Def → Bool
  | .item _ => true
  | .list (some _) _ => true
  | .list none (.list _ _ :: _) => true
  | .list none _ => false

def allOkUnderName : List Def → Bool
  | [] => true
  | m :: ms => okUnderName m && allOkUnderName ms

/-- the only member is a named list -/
def soleNamed : List Def → Bool
  | [.list (some _) _] => true
  | _ => false

/-- the members of a named list: (A) a data item followed by at least one more member, the further members being items, named
lists or unnamed lists of lists — `docs/firststeps/sfdl.md` has no such list, the form is that of `ERRORS` in the structure
text of S14F2 (`secs/functions/s14f02.py`); or (B) exactly one unnamed fixed length list that starts with a data item
(documented: S2F33 `REPORTS`, S6F8 `DS` and `DV`) -/
def namedForm : List Def → Bool
  | .item _ :: m2 :: rest => allOkUnderName (m2 :: rest)
  | [.list none (.item _ :: _ :: _)] => true
  | _ => false

mutual
/-- **List names only in two placements.**  A name after the `L` tag is given to
* (A) a fixed length list whose first member is a data item, the further members being items, named lists or unnamed lists of
  lists (`< L ERRORS < OBJACK > < L ERROR … > >` in the function catalogue's S14F2; not an example of the documentation); or
* (B) an open list of an unnamed fixed length list that starts with a data item (documented, S2F33: `< L REPORTS < L < RPTID > … > >`);
and a named list is never the only member of an unnamed list.  (A named open list of a data item, `< L SVIDS < SVID > >`,
is documented too; the code gets it wrong, see `Props.C19.witness_named_single_member`; no other placement occurs in the
documentation.) -/
def namesAsDocumented : Def → Bool
  | .item _ => true
  | .list none ms => !soleNamed ms && namesAsDocumentedL ms
  | .list (some _) ms => namedForm ms && namesAsDocumentedL ms
def namesAsDocumentedL : List Def → Bool
  | [] => true
  | m :: ms => namesAsDocumented m && namesAsDocumentedL ms
end

mutual
/-- all item names of the tree -/
def itemNames : Def → List Name
  | .item n => [n]
  | .list _ ms => itemNamesL ms
def itemNamesL : List Def → List Name
  | [] => []
  | m :: ms => itemNames m ++ itemNamesL ms
end

theorem tokensOf_list (nm : Option Name) (ms : List Def) (rest : List Name) :
    tokensOf (.list nm ms) ++ rest = ['<'] :: ['L'] :: (nm.toList ++ (tokensOfList ms ++ ['>'] :: rest)) := by
  cases nm <;> simp [tokensOf]

theorem tokensOf_head (d : Def) : ∃ tl, tokensOf d = ['<'] :: tl := by
  cases d with
  | item n => exact ⟨_, rfl⟩
  | list nm ms => exact ⟨_, by rw [← List.append_nil (tokensOf _), tokensOf_list]⟩

theorem isWord_parts {w : Name} (h : isWord w = true) : w ≠ [] ∧ w.all isWordChar = true := by
  simpa [isWord] using h

theorem wordsOk_list {nm : Option Name} {ms : List Def} :
    wordsOk (.list nm ms) = true ↔ (∀ x ∈ nm, isWord x = true) ∧ wordsOkL ms = true := by
  cases nm <;> simp [wordsOk]

theorem wordsOkL_cons {m : Def} {ms : List Def} : wordsOkL (m :: ms) = true ↔ wordsOk m = true ∧ wordsOkL ms = true := by
  rw [wordsOkL, Bool.and_eq_true]

end SecsModel.Spec.Sfdl
