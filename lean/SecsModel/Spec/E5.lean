import SecsModel.Basic.IEEE
/-!
# Spec.E5 — SEMI E5 (SECS-II) item format, written from the standard (not from the code)

E5 §9: an item is a *format byte*, 1–3 *length bytes* and the body.
* format byte = `format code << 2 | number of length bytes`;
* format codes (octal): L 00, B 10, BOOLEAN 11, A 20, J 21, I8 30, I1 31, I2 32, I4 34, F8 40, F4 44, U8 50, U1 51, U2 52, U4 54;
* length bytes: big-endian; the length of a list is its number of elements, of any other item its number of body bytes;
  the canonical form uses the fewest length bytes that hold the length (a receiver accepts 1, 2 or 3);
* integers are big-endian two's complement, floats IEEE-754 binary32/binary64 big-endian, BOOLEAN is one byte per value,
  zero = false, non-zero = true; A is one byte per character; J is JIS X 0201 (one byte per character).

The untyped value tree `Val` carries every element as an `Int`: byte value (B), 0/1 (BOOLEAN), code point (A, J), the integer
(I*/U*), and for F4/F8 the **binary64 bit pattern** of the Python float the item holds (an F4 element is rounded to binary32 on
the wire).  `encode` is the canonical encoder, `decodeAny` the independent reference decoder of property C02.
-/
namespace SecsModel.Spec.E5
open SecsModel

inductive Ty | b | bool | a | j | i8 | i1 | i2 | i4 | f8 | f4 | u8 | u1 | u2 | u4
deriving DecidableEq, Repr, Inhabited

inductive Kind | byte | bool | char | jis | sint | uint | f32 | f64
deriving DecidableEq, Repr

def Ty.all : List Ty := [.b, .bool, .a, .j, .i8, .i1, .i2, .i4, .f8, .f4, .u8, .u1, .u2, .u4]

/-- E5 format code -/
def Ty.code : Ty → Nat
  | .b => 0o10 | .bool => 0o11 | .a => 0o20 | .j => 0o21
  | .i8 => 0o30 | .i1 => 0o31 | .i2 => 0o32 | .i4 => 0o34
  | .f8 => 0o40 | .f4 => 0o44
  | .u8 => 0o50 | .u1 => 0o51 | .u2 => 0o52 | .u4 => 0o54

/-- bytes per element -/
def Ty.width : Ty → Nat
  | .b | .bool | .a | .j | .i1 | .u1 => 1
  | .i2 | .u2 => 2
  | .i4 | .u4 | .f4 => 4
  | .i8 | .u8 | .f8 => 8

def Ty.kind : Ty → Kind
  | .b => .byte | .bool => .bool | .a => .char | .j => .jis
  | .i8 | .i1 | .i2 | .i4 => .sint
  | .u8 | .u1 | .u2 | .u4 => .uint
  | .f4 => .f32 | .f8 => .f64

/-- SML mnemonic -/
def Ty.name : Ty → String
  | .b => "B" | .bool => "BOOLEAN" | .a => "A" | .j => "J"
  | .i8 => "I8" | .i1 => "I1" | .i2 => "I2" | .i4 => "I4"
  | .f8 => "F8" | .f4 => "F4"
  | .u8 => "U8" | .u1 => "U1" | .u2 => "U2" | .u4 => "U4"

/-- least / greatest element: the integer range of the width; for floats the bit patterns of ∓(largest finite value) -/
def Ty.lo : Ty → Int
  | .b | .bool | .a | .j | .u1 | .u2 | .u4 | .u8 => 0
  | .i1 => -128 | .i2 => -32768 | .i4 => -2147483648 | .i8 => -9223372036854775808
  | .f4 => 0xC7EFFFFFE0000000 | .f8 => 0xFFEFFFFFFFFFFFFF

def Ty.hi : Ty → Int
  | .b | .a | .j | .u1 => 255 | .bool => 1
  | .u2 => 65535 | .u4 => 4294967295 | .u8 => 18446744073709551615
  | .i1 => 127 | .i2 => 32767 | .i4 => 2147483647 | .i8 => 9223372036854775807
  | .f4 => 0x47EFFFFFE0000000 | .f8 => 0x7FEFFFFFFFFFFFFF

def Ty.ofCode (c : Nat) : Option Ty := Ty.all.find? (fun t => t.code == c)

/-- the E5 item-format table: (mnemonic, format code, element width, least, greatest) for the numeric formats
(floats: bit patterns of the largest finite value, negated and not), the same row shape with zeros for the others -/
def typeTable : List (String × Nat × Nat × Int × Int) :=
  ("L", 0, 0, 0, 0) :: Ty.all.map (fun t => (t.name, t.code, (match t.kind with | .sint | .uint | .f32 | .f64 => t.width | _ => 0),
    (match t.kind with | .sint | .uint | .f32 | .f64 => t.lo | _ => 0), (match t.kind with | .sint | .uint | .f32 | .f64 => t.hi | _ => 0)))

/-! ## JIS X 0201 (8-bit): 0x5C is the yen sign, 0x7E the overline, 0xA1–0xDF the half-width katakana U+FF61–U+FF9F;
the remaining bytes are passed through as the code point of the same number -/

def jisChar (b : Nat) : Nat :=
  if b = 0x5C then 0xA5 else if b = 0x7E then 0x203E else if 0xA1 ≤ b ∧ b ≤ 0xDF then b + 0xFEC0 else b

def jisByte (c : Int) : Option Nat :=
  if c = 0xA5 then some 0x5C
  else if c = 0x203E then some 0x7E
  else if 0xFF61 ≤ c ∧ c ≤ 0xFF9F then some (c - 0xFEC0).toNat
  else if 0 ≤ c ∧ c < 256 ∧ c ≠ 0x5C ∧ c ≠ 0x7E ∧ ¬ (0xA1 ≤ c ∧ c ≤ 0xDF) then some c.toNat
  else none

inductive Val
  | list (xs : List Val)
  | item (t : Ty) (es : List Int)
deriving Repr, Inhabited

mutual
def Val.beq : Val → Val → Bool
  | .list xs, .list ys => beqList xs ys
  | .item t es, .item u fs => t == u && es == fs
  | _, _ => false
def beqList : List Val → List Val → Bool
  | [], [] => true
  | x :: xs, y :: ys => x.beq y && beqList xs ys
  | _, _ => false
end

mutual
theorem Val.beq_eq (a b : Val) (h : a.beq b = true) : a = b := by
  match a, b with
  | .list xs, .list ys => simp only [Val.beq] at h; rw [beqList_eq xs ys h]
  | .item t es, .item u fs =>
    simp only [Val.beq, Bool.and_eq_true, beq_iff_eq] at h
    rw [h.1, h.2]
  | .list _, .item _ _ => simp [Val.beq] at h
  | .item _ _, .list _ => simp [Val.beq] at h
theorem beqList_eq (xs ys : List Val) (h : beqList xs ys = true) : xs = ys := by
  match xs, ys with
  | [], [] => rfl
  | x :: xs, y :: ys =>
    simp only [beqList, Bool.and_eq_true] at h
    rw [Val.beq_eq x y h.1, beqList_eq xs ys h.2]
  | [], _ :: _ => simp [beqList] at h
  | _ :: _, [] => simp [beqList] at h
end

mutual
theorem Val.beq_refl (a : Val) : a.beq a = true := by
  match a with
  | .list xs => simp only [Val.beq]; exact beqList_refl xs
  | .item t es => simp [Val.beq]
theorem beqList_refl (xs : List Val) : beqList xs xs = true := by
  match xs with
  | [] => rfl
  | x :: xs => simp only [beqList, Val.beq_refl x, beqList_refl xs, Bool.and_self]
end

instance : DecidableEq Val := fun a b =>
  if h : a.beq b = true then isTrue (Val.beq_eq a b h) else isFalse (fun e => h (e ▸ Val.beq_refl a))

mutual
def Val.size : Val → Nat
  | .item _ _ => 1
  | .list xs => 1 + sizeList xs
def sizeList : List Val → Nat
  | [] => 0
  | x :: xs => 1 + x.size + sizeList xs
end

/-- two's complement of `e` in `w` bytes -/
def toTwos (w : Nat) (e : Int) : Nat := (e % ((256 ^ w : Nat) : Int)).toNat
def ofTwos (w : Nat) (n : Nat) : Int := if 2 * n < 256 ^ w then (n : Int) else (n : Int) - ((256 ^ w : Nat) : Int)

/-- is `e` an element of format `t` (floats: any binary64 pattern) -/
def okElem (t : Ty) (e : Int) : Bool :=
  match t.kind with
  | .jis => (jisByte e).isSome
  | .f32 | .f64 => decide (0 ≤ e ∧ e < 18446744073709551616)
  | _ => decide (t.lo ≤ e ∧ e ≤ t.hi)

/-- body bytes of one element -/
def elemEnc (t : Ty) (e : Int) : Except Err Bytes :=
  if okElem t e = false then .error .valueError else
  match t.kind with
  | .jis => match jisByte e with | some b => .ok [b] | none => .error .valueError
  | .sint => .ok (be t.width (toTwos t.width e))
  | .f32 => match IEEE.round32 e.toNat with | .ok f => .ok (be 4 f) | .error x => .error x
  | _ => .ok (be t.width e.toNat)

def encElems (t : Ty) : List Int → Except Err Bytes
  | [] => .ok []
  | e :: es =>
    match elemEnc t e with
    | .error x => .error x
    | .ok b =>
      match encElems t es with
      | .error x => .error x
      | .ok r => .ok (b ++ r)

/-- fewest length bytes that hold `len` -/
def nlbOf (len : Nat) : Nat := if len ≤ 0xFF then 1 else if len ≤ 0xFFFF then 2 else 3

/-- canonical item header -/
def header (code len : Nat) : Except Err Bytes :=
  if 0xFFFFFF < len then .error .valueError else .ok ((code * 4 + nlbOf len) :: be (nlbOf len) len)

mutual
def encode : Val → Except Err Bytes
  | .item t es =>
    match encElems t es with
    | .error x => .error x
    | .ok p =>
      match header t.code p.length with
      | .error x => .error x
      | .ok h => .ok (h ++ p)
  | .list xs =>
    match header 0 xs.length with
    | .error x => .error x
    | .ok h =>
      match encodeList xs with
      | .error x => .error x
      | .ok p => .ok (h ++ p)
def encodeList : List Val → Except Err Bytes
  | [] => .ok []
  | x :: xs =>
    match encode x with
    | .error e => .error e
    | .ok a =>
      match encodeList xs with
      | .error e => .error e
      | .ok b => .ok (a ++ b)
end

/-- the value one element's body bytes denote -/
def elemDec (t : Ty) (bs : Bytes) : Int :=
  match t.kind with
  | .bool => if ofBe bs = 0 then 0 else 1
  | .jis => (jisChar (ofBe bs) : Nat)
  | .sint => ofTwos t.width (ofBe bs)
  | .f32 => (IEEE.widen (ofBe bs) : Nat)
  | _ => (ofBe bs : Nat)

/-- what an element becomes on the wire and back: an F4 element is rounded to binary32 -/
def normElem (t : Ty) (e : Int) : Int :=
  match t with
  | .f4 => match IEEE.round32 e.toNat with | .ok f => (IEEE.widen f : Nat) | .error _ => e
  | _ => e

mutual
def norm : Val → Val
  | .item t es => .item t (es.map (normElem t))
  | .list xs => .list (normList xs)
def normList : List Val → List Val
  | [] => []
  | x :: xs => norm x :: normList xs
end

/-- no infinity or NaN among the float elements -/
def finElem (t : Ty) (e : Int) : Bool :=
  match t.kind with
  | .f32 | .f64 => IEEE.isFinite64 e.toNat
  | _ => true

mutual
def Val.Finite : Val → Prop
  | .item t es => ∀ e ∈ es, finElem t e = true
  | .list xs => FiniteList xs
def FiniteList : List Val → Prop
  | [] => True
  | x :: xs => x.Finite ∧ FiniteList xs
end

-- every F4 element is exactly representable in binary32
mutual
def Val.Exact32 : Val → Prop
  | .item t es => ∀ e ∈ es, normElem t e = e
  | .list xs => Exact32List xs
def Exact32List : List Val → Prop
  | [] => True
  | x :: xs => x.Exact32 ∧ Exact32List xs
end

def takeN (n : Nat) (bs : Bytes) : Option (Bytes × Bytes) :=
  if bs.length < n then none else some (bs.take n, bs.drop n)

/-- `n` consecutive groups of `w` bytes -/
def chunksN (w : Nat) : Nat → Bytes → List Bytes
  | 0, _ => []
  | n+1, bs => bs.take w :: chunksN w n (bs.drop w)

/-- format byte and 1–3 length bytes (any of the three counts is accepted, whatever the length) -/
def decHeader : Bytes → Option (Nat × Nat × Bytes)
  | [] => none
  | fb :: r =>
    if 256 ≤ fb ∨ fb % 4 = 0 then none else
    match takeN (fb % 4) r with
    | none => none
    | some (lb, r') => some (fb / 4, ofBe lb, r')

mutual
def decItem : Nat → Bytes → Option (Val × Bytes)
  | 0, _ => none
  | f+1, bs =>
    match decHeader bs with
    | none => none
    | some (code, len, rest) =>
      if code = 0 then
        match decList f len rest with
        | none => none
        | some (xs, r) => some (.list xs, r)
      else
        match Ty.ofCode code with
        | none => none
        | some t =>
          if len % t.width ≠ 0 then none else
          match takeN len rest with
          | none => none
          | some (p, r) => some (.item t ((chunksN t.width (len / t.width) p).map (elemDec t)), r)
def decList : Nat → Nat → Bytes → Option (List Val × Bytes)
  | _, 0, bs => some ([], bs)
  | 0, _+1, _ => none
  | f+1, n+1, bs =>
    match decItem f bs with
    | none => none
    | some (x, r) =>
      match decList f n r with
      | none => none
      | some (xs, r') => some (x :: xs, r')
end

/-- **the independent reference decoder**: the first item of `bs` and the bytes after it -/
def decodeAny (bs : Bytes) : Option (Val × Bytes) := decItem (bs.length + 1) bs

/-- `bs` is a valid E5 item denoting `v` -/
def Valid (bs : Bytes) (v : Val) : Prop := decodeAny bs = some (v, [])

end SecsModel.Spec.E5
