import SecsModel.Model.GemTab
/-!
# Spec.GemTables — the reference the replies of S1F3/S1F11, S2F13/S2F15/S2F29, S5F3/S5F5/S5F7 and the S5F1 reports are held to

The tables are the ones of `Model.Gem.Tab.St`; what is *declared* here is the shape E5/E30 give the answers:

* a request with ids is answered **per requested id, in request order**, with the item's current value / names, and with
  an **empty item** (zero-length list, resp. empty names) for an id the equipment does not know; a request with no ids is
  answered with every table entry in table order;
* the *current value* of a status variable: its cell, or for the GEM-defined ones the clock in the selected time format,
  the control state, the enabled events, the enabled alarms, the set alarms;
* the *current value* of an equipment constant: the last value set (for EstablishCommunicationsTimeout / TimeFormat the
  integer actually in force);
* S2F15 is **all or nothing**: accepted iff every constant exists and every value lies within the limits the constant declares
  (a missing `min` or `max` is no limit on that side); then every value is
  stored, in message order;
* `set_alarm`/`clear_alarm` report (S5F1) **iff** the alarm's set state changes **and** the alarm is enabled at that moment;
  S5F5 lists the requested alarms, S5F7 the enabled ones, each with ALCD bit 8 = currently set.
-/
namespace SecsModel.Spec.GemTables
open SecsModel SecsModel.Model.Gem SecsModel.Model.Gem.Tab

def svCurrent (s : St) (sv : Sv) : Val := svValue s sv

def s1f3 (s : St) (ids : List Id) : List Val :=
  if ids = [] then s.svs.map (svCurrent s)
  else ids.map (fun i => match s.findSv i with | some sv => svCurrent s sv | none => Val.empty)

def s1f11 (s : St) (ids : List Id) : List (Id × String × String) :=
  if ids = [] then s.svs.map (fun sv => (sv.id, sv.name, sv.unit))
  else ids.map (fun i => match s.findSv i with | some sv => (sv.id, sv.name, sv.unit) | none => (i, "", ""))

/-- an integer-typed constant shows its integer, a float-typed one its value as a float -/
def ecCurrent (s : St) (ec : Ec) : Val :=
  match ecKind ec.id with
  | .ect => .nums [s.ect]
  | .timeFormat => .nums [s.timeFormat]
  | .plain =>
    if ec.intTyped then numVal ec.value
    else match ec.value with
      | .int n => .flt n 0
      | v => numVal v

def s2f13 (s : St) (ids : List Id) : List Val :=
  if ids = [] then s.ecs.map (ecCurrent s)
  else ids.map (fun i => match s.findEc i with | some ec => ecCurrent s ec | none => Val.empty)

def s2f29 (s : St) (ids : List Id) : List EcRow :=
  if ids = [] then s.ecs.map ecRow
  else ids.map (fun i => match s.findEc i with | some ec => ecRow ec | none => ⟨i, "", .text "", .text "", .text "", ""⟩)

def Num.finite : Num → Bool
  | .int _ => true
  | .flt _ => true
  | _ => false

/-- `int(x)` of a finite number -/
def trunc : Num → Int
  | .int n => n
  | .flt d => Int.tdiv d.num (2 ^ d.k)
  | _ => 0

/-- store one constant (only meaningful for a finite `x`; nothing here or in `C13.s2f15_all_or_none` excludes a NaN) -/
def setOne (s : St) (i : Id) (x : Num) : St :=
  let ecs := updFirst (fun ec => ec.id = i) (fun ec => { ec with value := x }) s.ecs
  match ecKind i with
  | .ect => { s with ect := trunc x, ecs := ecs }
  | .timeFormat => { s with timeFormat := trunc x, ecs := ecs }
  | .plain => { s with ecs := ecs }

def numOf : Ecv → Num
  | .num x => x
  | .other => .nan

def applyAll (s : St) (req : List (Id × Ecv)) : St := req.foldl (fun s p => setOne s p.1 (numOf p.2)) s

/-- the acceptance condition of S2F15, evaluated on the state before the request -/
def acceptable (s : St) (p : Id × Ecv) : Prop :=
  ∃ ec x, s.findEc p.1 = some ec ∧ p.2 = .num x ∧ x.geO ec.min = true ∧ x.leO ec.max = true

/-- every constant lies within its declared limits -/
def InRange (s : St) : Prop := ∀ ec ∈ s.ecs, ec.value.geO ec.min = true ∧ ec.value.leO ec.max = true

/-- the expected S5F1 reports of a set / clear -/
def setReports (a : Alarm) (i : Id) : List AlarmRow := if !a.set && a.enabled then [⟨a.code ||| 128, i, a.text⟩] else []
def clearReports (a : Alarm) (i : Id) : List AlarmRow := if a.set && a.enabled then [⟨a.code, i, a.text⟩] else []

def s5f5 (s : St) (alids : List Id) : List (Option AlarmRow) :=
  (if alids = [] then s.alarms.map (·.id) else alids).map (fun i => (s.findAlarm i).map (alarmRow i))

end SecsModel.Spec.GemTables
