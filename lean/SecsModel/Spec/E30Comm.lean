/-!
# Spec.E30Comm — the E30 establish-communications model, as the property C07 uses it

My reading of SEMI E30 §3.2 (the standard's text is not in the sandbox; the table is reproduced here so that a reader can
disagree with it).  States and transition numbers of the E30 communication state diagram:

| E30 # | from | trigger | to | action |
|---|---|---|---|---|
| 2 / 4 | DISABLED | operator enables | ENABLED / NOT COMMUNICATING | |
| 3 | any ENABLED substate | operator disables | DISABLED | |
| 5 | NOT COMMUNICATING | (link available) | WAIT CRA | send S1F13, start the reply timer |
| 6 | WAIT CRA | reply timeout, COMMACK ≠ 0, abort | WAIT DELAY | start the establish-communications delay |
| 7 | WAIT DELAY | delay expired | WAIT CRA | send S1F13 |
| 8 | WAIT DELAY | message other than S1F13 received | WAIT CRA | send S1F13 |
| 9 | WAIT CRA | the expected S1F14 with COMMACK = 0 | COMMUNICATING | |
| 10 / 15 | WAIT CR FROM HOST, WAIT CRA, WAIT DELAY | S1F13 received, S1F14 with COMMACK = 0 sent | COMMUNICATING | |
| 14 | COMMUNICATING | communication failure | NOT COMMUNICATING | |

Besides the table this file fixes the *vocabulary of observation* (inputs, outputs, observed steps) and states clause 1 of
the property ("established only after a completed exchange with COMMACK 0 on the current link") over observed traces only —
no model state occurs in `Completes` / `Justified`.
-/
namespace SecsModel.Spec.E30Comm

/-- the states of `CommunicationState` (gem/communication_state_machine.py), E30 names -/
inductive Comm
  | disabled | enabled | notCommunicating | hostInitiatedConnect | waitCrFromHost
  | equipmentInitiatedConnect | waitDelay | waitCra | communicating
deriving DecidableEq, Repr, Inhabited

def Comm.all : List Comm :=
  [.disabled, .enabled, .notCommunicating, .hostInitiatedConnect, .waitCrFromHost, .equipmentInitiatedConnect,
   .waitDelay, .waitCra, .communicating]

def Comm.name : Comm → String
  | .disabled => "DISABLED" | .enabled => "ENABLED" | .notCommunicating => "NOT_COMMUNICATING"
  | .hostInitiatedConnect => "HOST_INITIATED_CONNECT" | .waitCrFromHost => "WAIT_CR_FROM_HOST"
  | .equipmentInitiatedConnect => "EQUIPMENT_INITIATED_CONNECT" | .waitDelay => "WAIT_DELAY"
  | .waitCra => "WAIT_CRA" | .communicating => "COMMUNICATING"

def Comm.ofName (s : String) : Option Comm := Comm.all.find? (fun c => c.name == s)

theorem Comm.mem_all (c : Comm) : c ∈ Comm.all := by cases c <;> decide

/-- the transitions the shipped machine names -/
inductive Trans
  | enable | disable | select | communicationreqfail | delayexpired | messagereceived
  | s1f14received | communicationfail | s1f13received
deriving DecidableEq, Repr, Inhabited

def Trans.all : List Trans :=
  [.enable, .disable, .select, .communicationreqfail, .delayexpired, .messagereceived, .s1f14received,
   .communicationfail, .s1f13received]

theorem Trans.mem_all (t : Trans) : t ∈ Trans.all := by cases t <;> decide

def Trans.name : Trans → String
  | .enable => "enable" | .disable => "disable" | .select => "select"
  | .communicationreqfail => "communicationreqfail" | .delayexpired => "delayexpired"
  | .messagereceived => "messagereceived" | .s1f14received => "s1f14received"
  | .communicationfail => "communicationfail" | .s1f13received => "s1f13received"

/-- the E30 table above: `allowed t c = some d` iff transition `t` may be taken in `c`, leading to `d` -/
def allowed : Trans → Comm → Option Comm
  | .enable, .disabled => some .notCommunicating                       -- 2 + 4
  | .disable, .disabled => none
  | .disable, _ => some .disabled                                      -- 3
  | .select, .notCommunicating => some .waitCra                        -- 5
  | .communicationreqfail, .waitCra => some .waitDelay                 -- 6
  | .delayexpired, .waitDelay => some .waitCra                         -- 7
  | .messagereceived, .waitDelay => some .waitCra                      -- 8
  | .s1f14received, .waitCra => some .communicating                    -- 9
  | .communicationfail, .communicating => some .notCommunicating       -- 14
  | .s1f13received, .waitCrFromHost => some .communicating             -- 10
  | .s1f13received, .waitDelay => some .communicating                  -- 15
  | .s1f13received, .waitCra => some .communicating                    -- 15
  | _, _ => none

/-- COMMUNICATING is entered only by transitions 9 and 10/15 -/
theorem enters_communicating (t : Trans) (c : Comm) (h : allowed t c = some .communicating) :
    t = .s1f14received ∨ t = .s1f13received := by
  cases t <;> cases c <;> simp_all [allowed]

theorem allowed_ne_self (t : Trans) (c : Comm) : allowed t c ≠ some c := by
  cases t <;> cases c <;> decide

/-! ## Observations -/

/-- what happens to the handler.  `rx` is an inbound data message: stream, function, W-bit, system bytes and —
for an S1F14 — the COMMACK its body carries (`none`: the body cannot be decoded).  System bytes are abstract numbers:
the k-th S1F13 the handler creates carries the id `k`. -/
inductive Input
  | enable | disable
  | linkConnected        -- the transport connection is up (the protocol's receiver thread runs: frames are written)
  | linkSelected         -- the HSMS session is selected (the `communicating` event); connects first if there is no connection
  | linkLost             -- the connection is closed
  | rx (s f : Nat) (w : Bool) (sys : Nat) (commack : Option Nat)
  | t3Expired | delayExpired
deriving DecidableEq, Repr, Inhabited

/-- what the handler does that is visible from outside -/
inductive Output
  | txS1F13 (sys : Nat)                       -- an S1F13 written to the connection
  | txS1F14 (sys commack : Nat)               -- an S1F14 written to the connection
  | evtCommunicating                          -- the `handler_communicating` event
  | callback (s f : Nat)                      -- a stream/function callback invoked
  | unknown (s f : Nat) (w : Bool)            -- `_handle_unknown_functions` (no callback: S9F5 if W)
  | wrongSource (t : Trans)                   -- a transition attempt raised `WrongSourceStateError`
  | blocked                                   -- a send waits for a receiver thread that is not running (link down)
deriving DecidableEq, Repr, Inhabited

/-- one observed step -/
structure Obs where
  input : Input
  outputs : List Output
deriving DecidableEq, Repr

def s1f13Ids : List Output → List Nat
  | [] => []
  | .txS1F13 k :: os => k :: s1f13Ids os
  | _ :: os => s1f13Ids os

/-- the link as the trace shows it: connected, selected, and the ids of the S1F13 written on the current connection -/
structure Link where
  connected : Bool := false
  selected : Bool := false
  ids : List Nat := []
deriving DecidableEq, Repr

/-- effect of one observed step on the link -/
def obsStep (acc : Link) (o : Obs) : Link :=
  match o.input with
  | .linkConnected => if acc.connected then { acc with ids := acc.ids ++ s1f13Ids o.outputs } else ⟨true, false, s1f13Ids o.outputs⟩
  | .linkSelected => ⟨true, true, (if acc.connected then acc.ids else []) ++ s1f13Ids o.outputs⟩
  | .linkLost => ⟨false, false, []⟩
  | _ => { acc with ids := if acc.connected then acc.ids ++ s1f13Ids o.outputs else acc.ids }

def linkState (tr : List Obs) : Link := tr.foldl obsStep {}

/-- a connection exists after the trace -/
def isConn (tr : List Obs) : Bool := (linkState tr).connected
/-- the link is selected after the trace -/
def isUp (tr : List Obs) : Bool := (linkState tr).selected
/-- ids of the S1F13 written on the current connection (empty while there is none) -/
def onLink (tr : List Obs) : List Nat := (linkState tr).ids

/-- `o`, observed after `before`, completes an S1F13/S1F14 exchange with COMMACK = 0 on the current link:
either an inbound S1F13 was answered with S1F14/COMMACK 0, or an S1F14 with COMMACK 0 arrived whose system bytes are those
of an S1F13 written on the current connection (`strict`; without `strict` the system bytes are not looked at — the shipped code). -/
def Completes (strict : Bool) (before : List Obs) (o : Obs) : Prop :=
  (∃ w sys c, o.input = .rx 1 13 w sys c ∧ Output.txS1F14 sys 0 ∈ o.outputs) ∨
  (∃ w sys, o.input = .rx 1 14 w sys (some 0) ∧ (strict = true → sys ∈ onLink before))

/-- clause 1 of C07 for a trace that ends established -/
def Justified (strict : Bool) (tr : List Obs) : Prop :=
  ∃ tr₁ e tr₂, tr = tr₁ ++ e :: tr₂ ∧ isUp tr₁ = true ∧ Completes strict tr₁ e ∧
    ∀ x ∈ tr₂, x.input ≠ .linkLost ∧ x.input ≠ .disable

end SecsModel.Spec.E30Comm
