import SecsModel.Basic.Bytes
/-!
# Spec.E37Frame — the HSMS message frame of SEMI E37 §8.2 (my reading; reproduced so that it can be disputed)

```
byte 0..3    message length  (4-byte unsigned, big endian) = 10 + length of the message text, NOT counting these four bytes
byte 4..5    session id      (16 bit; for data messages bit 15 = 0 and bits 14..0 = device id; 0xFFFF for control messages)
byte 6       header byte 2   W-bit (bit 7) | stream (bits 6..0)         (for control messages: 0 or, in Reject.req, the rejected SType)
byte 7       header byte 3   function                                    (for control messages: 0 or a status / reason code)
byte 8       PType           0 = SECS-II encoding
byte 9       SType           0 data, 1 Select.req, 2 Select.rsp, 3 Deselect.req, 4 Deselect.rsp, 5 Linktest.req, 6 Linktest.rsp, 7 Reject.req, 9 Separate.req
byte 10..13  system bytes    (4-byte unsigned, big endian)
byte 14..    message text    (SECS-II item, may be empty)
```
This file is part of the executable model (the driver prints `frame`).
-/
namespace SecsModel.Spec.E37

structure Hdr where
  session : Nat
  w : Bool
  stream : Nat
  function : Nat
  ptype : Nat
  stype : Nat
  system : Nat
deriving DecidableEq, Repr

/-- the STypes E37 defines (8 and 10..255 are not used / reserved) -/
def stypes : List Nat := [0, 1, 2, 3, 4, 5, 6, 7, 9]

structure Hdr.InRange (h : Hdr) : Prop where
  session : h.session < 2^16
  stream : h.stream < 2^7
  function : h.function < 2^8
  ptype : h.ptype < 2^8
  stype : h.stype ∈ stypes
  system : h.system < 2^32

instance (h : Hdr) : Decidable h.InRange :=
  if c : h.session < 2^16 ∧ h.stream < 2^7 ∧ h.function < 2^8 ∧ h.ptype < 2^8 ∧ h.stype ∈ stypes ∧ h.system < 2^32
  then isTrue ⟨c.1, c.2.1, c.2.2.1, c.2.2.2.1, c.2.2.2.2.1, c.2.2.2.2.2⟩
  else isFalse (fun r => c ⟨r.session, r.stream, r.function, r.ptype, r.stype, r.system⟩)

def headerBytes (h : Hdr) : Bytes :=
  be 2 h.session ++ be 1 (h.stream + (if h.w then 128 else 0)) ++ be 1 h.function ++ be 1 h.ptype ++ be 1 h.stype ++ be 4 h.system

def frame (h : Hdr) (body : Bytes) : Bytes :=
  be 4 (10 + body.length) ++ headerBytes h ++ body

/-- the largest message text a frame can announce -/
def maxBody : Nat := 2^32 - 1 - 10

theorem headerBytes_length (h : Hdr) : (headerBytes h).length = 10 := by
  simp [headerBytes]

theorem frame_length (h : Hdr) (body : Bytes) : (frame h body).length = 14 + body.length := by
  simp [frame, headerBytes_length]; omega

theorem frame_take4 (h : Hdr) (body : Bytes) : (frame h body).take 4 = be 4 (10 + body.length) := by
  rw [frame, List.append_assoc, List.take_left' (be_length _ _)]

end SecsModel.Spec.E37
