/-!
# Model.Pair — a GEM host and a GEM equipment joined by two FIFO channels (abstract control model for C20)

One endpoint is the product of the HSMS session state (`hsms/protocol.py` + `ConnectionStateMachine`) and the GEM
communication state (`gem/handler.py` + `CommunicationStateMachine`); only the messages of the two handshakes are kept
(Select.req/rsp, S1F13, S1F14).  Timers are explicit steps.  Follows the code after the `fix:` commits:
`on_connection_closed` is called on link loss (COMMUNICATING → NOT_COMMUNICATING), S1F14 with COMMACK ≠ 0 → WAIT_DELAY.
-/
namespace SecsModel.Model.Pair

inductive Conn | nc | ns | sel deriving DecidableEq, Repr, Inhabited
inductive Comm | dis | notc | wcra | wdelay | comm deriving DecidableEq, Repr, Inhabited
inductive Msg | selReq | selRsp | s1f13 | s1f14 (ok : Bool) deriving DecidableEq, Repr, Inhabited

structure End where
  en : Bool        -- handler enabled
  active : Bool    -- HSMS connect mode ACTIVE (sends Select.req)
  conn : Conn
  comm : Comm
deriving DecidableEq, Repr, Inhabited

/-- `x`: the endpoint, `out`: what it sends (appended to its outbound channel) -/
structure Pair where
  a : End
  b : End
  ab : List Msg    -- in flight a → b (head = oldest)
  ba : List Msg    -- in flight b → a
deriving DecidableEq, Repr, Inhabited

inductive Side | A | B deriving DecidableEq, Repr, Inhabited

inductive Step
  | enable (x : Side) | disable (x : Side) | linkUp | linkDown
  | deliver (x : Side)            -- the oldest message in flight towards `x` is received and handled by `x`
  | t3 (x : Side) | delay (x : Side)
deriving DecidableEq, Repr, Inhabited

def Pair.get (p : Pair) : Side → End | .A => p.a | .B => p.b
def Pair.set (p : Pair) (x : Side) (e : End) : Pair := match x with | .A => { p with a := e } | .B => { p with b := e }
/-- append to the outbound channel of `x` -/
def Pair.send (p : Pair) (x : Side) (ms : List Msg) : Pair :=
  match x with | .A => { p with ab := p.ab ++ ms } | .B => { p with ba := p.ba ++ ms }
def Pair.inbox (p : Pair) : Side → List Msg | .A => p.ba | .B => p.ab
def Pair.popInbox (p : Pair) : Side → Pair | .A => { p with ba := p.ba.tail } | .B => { p with ab := p.ab.tail }

/-- the `communicating` event of the protocol (entering SELECTED): `CommunicationStateMachine.select()`; from any state but
NOT_COMMUNICATING it raises `WrongSourceStateError`, which the dispatcher swallows -/
def selected (e : End) : End × List Msg :=
  if e.comm = .notc then ({ e with comm := .wcra }, [.s1f13]) else (e, [])

/-- a data message of the establish-communications handshake handled by `GemHandler._on_message_received` -/
def handleData (e : End) (m : Msg) : End × List Msg :=
  if e.conn ≠ .sel then (e, []) else      -- not SELECTED: Reject.req, not delivered
  match e.comm, m with
  | .wcra, .s1f13 => ({ e with comm := .comm }, [.s1f14 true])
  | .wcra, .s1f14 true => ({ e with comm := .comm }, [])
  | .wcra, .s1f14 false => ({ e with comm := .wdelay }, [])
  | .comm, .s1f13 => (e, [.s1f14 true])      -- built-in `_on_s01f13` callback
  | _, _ => (e, [])

def handle (e : End) (m : Msg) : End × List Msg :=
  match m with
  | .selReq =>
    if e.conn = .nc then (e, []) else
    if e.conn = .ns then
      let (e', out) := selected { e with conn := .sel }
      (e', .selRsp :: out)
    else (e, [.selRsp])                 -- already SELECTED: Select.rsp is sent, `select()` raises (swallowed)
  | .selRsp =>
    if e.conn = .ns then selected { e with conn := .sel } else (e, [])
  | m => handleData e m

def closeEnd (e : End) : End :=
  { e with conn := .nc, comm := if e.comm = .comm then .notc else e.comm }

def linkDown (p : Pair) : Pair :=
  { a := closeEnd p.a, b := closeEnd p.b, ab := [], ba := [] }

def step (p : Pair) : Step → Option Pair
  | .enable x =>
    let e := p.get x
    if e.en then none else some (p.set x { e with en := true, comm := .notc })
  | .disable x =>
    let e := p.get x
    if !e.en then none else
    let p' := if e.conn ≠ .nc then linkDown p else p
    some (p'.set x { (p'.get x) with en := false, comm := .dis })
  | .linkUp =>
    if p.a.en && p.b.en && p.a.conn = .nc && p.b.conn = .nc then
      let p' : Pair := { p with a := { p.a with conn := .ns }, b := { p.b with conn := .ns }, ab := [], ba := [] }
      let p' := if p.a.active then p'.send .A [.selReq] else p'
      let p' := if p.b.active then p'.send .B [.selReq] else p'
      some p'
    else none
  | .linkDown => if p.a.conn ≠ .nc || p.b.conn ≠ .nc then some (linkDown p) else none
  | .deliver x =>
    match p.inbox x with
    | [] => none
    | m :: _ =>
      let (e', out) := handle (p.get x) m
      some (((p.popInbox x).set x e').send x out)
  | .t3 x =>
    let e := p.get x
    if e.comm = .wcra then some (p.set x { e with comm := .wdelay }) else none
  | .delay x =>
    let e := p.get x
    if e.comm = .wdelay then
      let p' := p.set x { e with comm := .wcra }
      -- with a connection the S1F13 is written at once (also while NOT SELECTED: the receiver thread runs as soon as the TCP
      -- connection is up).  Without a connection `send_stream_function` blocks; the block is written as the first frame of the
      -- next connection, where the peer (still NOT SELECTED) answers Reject.req and the sender ignores that: the message has no
      -- effect on either state, so the model drops it (see `Props/C20b.lean`, `delay_not_connected_flushed_at_linkUp`).
      some (if e.conn ≠ .nc then p'.send x [.s1f13] else p')
    else none

def run (p : Pair) : List Step → Option Pair
  | [] => some p
  | s :: ss => match step p s with | some p' => run p' ss | none => none

def init (aActive : Bool) : Pair :=
  { a := ⟨false, aActive, .nc, .dis⟩, b := ⟨false, !aActive, .nc, .dis⟩, ab := [], ba := [] }

def bothComm (p : Pair) : Bool := p.a.comm = .comm && p.b.comm = .comm

/-! ### projection used to validate observed traces of the real pair

The harness records, in order, every state-machine transition of the four real machines (two sessions, two
communication machines).  `okEvent` says whether such a transition is one the model can take in the current
projected state (what the machine is, and what its sibling machine on the same endpoint is). -/

/-- allowed single transitions of the session machine -/
def connOk : Conn → Conn → Bool
  | .nc, .ns => true | .ns, .sel => true | .sel, .ns => true | .ns, .nc => true | .sel, .nc => true | _, _ => false

/-- allowed single transitions of the communication machine, given the endpoint's session state at that moment -/
def commOk (c : Conn) : Comm → Comm → Bool
  | .dis, .notc => true
  | .dis, .dis => false
  | _, .dis => true
  | .notc, .wcra => c ≠ .nc          -- only the `communicating` event (session SELECTED) starts an attempt; the observer may see
                                     -- the session already left SELECTED again (another thread), never NOT CONNECTED→attempt
  | .wcra, .wdelay => true           -- T3 / COMMACK ≠ 0
  | .wdelay, .wcra => true           -- delay expired
  | .wcra, .comm => true             -- S1F13 / S1F14 handled by the dispatcher thread (may be overtaken by a close on another thread)
  | .comm, .notc => true             -- link lost
  | _, _ => false

end SecsModel.Model.Pair
