import SecsModel.Model.Rx
/-!
# Model.Wedge — who waits for whom: receiver thread, dispatcher thread and the close sequence (hand model of the Python)

A thread/program-counter level transition system of

* the **connection's thread** (`TcpConnection.__receiver_thread`, or the harness thread that drives an in-memory `Connection`): delivers
  `on_data` chunks, then runs the close sequence `on_disconnecting` → (`socket.close`) → `on_disconnected`, i.e.
  `HsmsProtocol._on_disconnecting` (`send_separate_req` → `Protocol.send_message`: put a `BlockSendInfo` on the send queue, trigger the
  receiver, **wait without a time-out** for its result) and `HsmsProtocol._on_disconnected` (`connection_state.disconnect()`,
  `ProtocolDispatcher.stop()`: set the stop flag, set the trigger, **join** the receiver thread; `_receive_buffer.clear()`);
* the **protocol receiver thread** (`ProtocolDispatcher._receiver_thread_function`: wait for the trigger, clear it, check the stop flag, run
  `_process_send_queue(); _process_received_data()`, check the stop flag again);
* the **dispatcher thread** (`_dispatcher_thread_function`; it is never stopped — F-8 — and a handler that answers a request blocks in
  `send_message` like everybody else).

`Variant.current` is the code that exists; `blockingRead` is the receive loop before its repair (`wait_for(length)` blocks until the frame is
complete, `fixed:` 725a0b2), `returningSendLoop` the send-queue loop before its repair (`resolve(False); return` leaves the rest of the queue
behind, `fixed:` 8ac2aeb) — both kept for regression witnesses only.  A label `prx false` is a `Connection.send_data` that returns `False`.  Ghost fields (`delivered`, `fed`, `mark`,
`rxErr`, `out`) only record what happened; no guard reads them.
-/
namespace SecsModel.Model.Wedge
open SecsModel SecsModel.Model.Rx

/-- connection thread -/
inductive TcpPc
  | running      -- connected: delivering `on_data`
  | sepEnq       -- `_on_disconnecting`: about to queue the Separate.req
  | sepWait      -- in `BlockSendInfo.wait()` for the Separate.req
  | discon       -- `_on_disconnected`: `connection_state.disconnect()`, then `ProtocolDispatcher.stop()`
  | join         -- in `self._receiver_thread.join()`
  | clear        -- `_receive_buffer.clear()`
  | done         -- not connected
deriving DecidableEq, Repr

/-- protocol receiver thread -/
inductive RxPc
  | notStarted
  | idle         -- in `_receiver_thread_trigger.wait()`
  | chk          -- trigger cleared, about to test the stop flag
  | send         -- in the `while not queue.empty()` loop of `_process_send_queue`
  | recv         -- at the head of the `while len(buffer) > 3` loop of `_process_received_data`
  | blockedRead  -- (only `blockingRead`) inside `ByteQueue.wait_for(length)`
  | loopCheck    -- target returned: `while not self._stop_receiver_thread`
  | exited
deriving DecidableEq, Repr

/-- dispatcher thread -/
inductive DispPc
  | notStarted
  | idle         -- in `_dispatcher_thread_trigger.wait()`
  | handle       -- in the `while qsize() > 0` loop
  | waitReply    -- a handler is in `BlockSendInfo.wait()` for the reply it queued
deriving DecidableEq, Repr

/-- who waits for a queued `BlockSendInfo` -/
inductive Tag | sep | reply
deriving DecidableEq, Repr

structure St where
  buf : Bytes            -- `_receive_buffer`
  sendQ : List Tag       -- `_send_queue`
  dispQ : Nat            -- number of blocks in `_dispatch_queue`
  rxTrig : Bool          -- `_receiver_thread_trigger` (the `Event` objects live as long as the protocol object)
  dispTrig : Bool        -- `_dispatcher_thread_trigger`
  stopRx : Bool          -- `_stop_receiver_thread`
  sepRes : Bool          -- the Separate.req's `BlockSendInfo` has been resolved
  replyRes : Bool        -- the reply's `BlockSendInfo` has been resolved
  conn : Bool            -- `connection_state.current != NOT_CONNECTED`
  tcp : TcpPc
  prx : RxPc
  disp : DispPc
  delivered : List Block -- ghost: every block handed to `queue_block`, ever
  fed : Bytes            -- ghost: bytes received since the last connect
  mark : Nat             -- ghost: `delivered.length` at the last connect
  rxErr : Bool           -- ghost: a frame was dropped by a decode exception since the last connect
  out : List Tag         -- ghost: what was written to the connection since the last connect
deriving DecidableEq, Repr

def St.init : St :=
  { buf := [], sendQ := [], dispQ := 0, rxTrig := false, dispTrig := false, stopRx := false, sepRes := false, replyRes := false,
    conn := false, tcp := .done, prx := .notStarted, disp := .notStarted, delivered := [], fed := [], mark := 0, rxErr := false, out := [] }

inductive Lbl
  | connect                 -- environment: a connection is established (`_on_connected`)
  | chunk (c : Bytes)       -- environment: the peer's next segment arrives (`on_data`)
  | close                   -- environment: the peer closes / the link drops / `disconnect()` is requested: the close sequence starts
  | tcp                     -- one step of the connection thread inside the close sequence
  | prx (sendOk : Bool)     -- one step of the protocol receiver thread (`sendOk`: result of `send_data` if this step sends)
  | disp (reply : Bool)     -- one step of the dispatcher thread (`reply`: the block popped in this step makes its handler send an answer)
deriving DecidableEq, Repr

/-- what is at the head of the receive buffer -/
inductive Head
  | short
  | incomplete
  | frame (raw rest : Bytes)
deriving DecidableEq, Repr

def head (buf : Bytes) : Head :=
  if buf.length < 4 then .short else
  if buf.length < ofBe (buf.take 4) + 4 then .incomplete else
  .frame (buf.take (ofBe (buf.take 4) + 4)) (buf.drop (ofBe (buf.take 4) + 4))

/-- the code that exists, or one of the two loops it had before a repair (each can hang, `Props/C09.lean`) -/
inductive Variant | current | blockingRead | returningSendLoop
deriving DecidableEq, Repr

def resolve (t : Tag) (s : St) : St :=
  match t with
  | .sep => { s with sepRes := true }
  | .reply => { s with replyRes := true }

def RxPc.alive (p : RxPc) : Bool := p != .notStarted && p != .exited

def stepTcp (s : St) : Option St :=
  match s.tcp with
  | .sepEnq => some { s with sendQ := s.sendQ ++ [.sep], rxTrig := true, tcp := .sepWait }
  | .sepWait => if s.sepRes then some { s with sepRes := false, tcp := .discon } else none
  | .discon =>
    -- `stop()`: `if not self._receiver_thread.is_alive(): return`
    if s.prx.alive then some { s with conn := false, stopRx := true, rxTrig := true, tcp := .join }
    else some { s with conn := false, tcp := .clear }
  | .join => if s.prx = .exited then some { s with tcp := .clear } else none
  | .clear => some { s with buf := [], tcp := .done }
  | .running => none
  | .done => none

def stepPrx (v : Variant) (s : St) (ok : Bool) : Option St :=
  match s.prx with
  | .idle => if s.rxTrig then some { s with rxTrig := false, prx := .chk } else none
  | .chk => if s.stopRx then some { s with prx := .exited, stopRx := false } else some { s with prx := .send }
  | .send =>
    match s.sendQ with
    | [] => some { s with prx := .recv }
    | t :: q =>
      if ok then some (resolve t { s with sendQ := q, out := s.out ++ [t] })
      else if v = .returningSendLoop then some (resolve t { s with sendQ := q, prx := .recv })   -- before the repair: `resolve(False); return`
      else some (resolve t { s with sendQ := q })                    -- `block_info.resolve(False); break`: on to the next queued block
  | .recv =>
    match head s.buf with
    | .short => some { s with prx := .loopCheck }
    | .incomplete => some { s with prx := if v = .blockingRead then .blockedRead else .loopCheck }
    | .frame raw rest =>
      match Block.decode raw with
      | .ok b => some { s with buf := rest, dispQ := s.dispQ + 1, dispTrig := true, delivered := s.delivered ++ [b] }
      | .error _ => some { s with buf := rest, rxErr := true, prx := .loopCheck }
  | .blockedRead =>
    match head s.buf with
    | .frame _ _ => some { s with prx := .recv }
    | _ => none
  | .loopCheck => if s.stopRx then some { s with prx := .exited, stopRx := false } else some { s with prx := .idle }
  | .notStarted => none
  | .exited => none

def stepDisp (s : St) (reply : Bool) : Option St :=
  match s.disp with
  | .idle => if s.dispTrig then some { s with dispTrig := false, disp := .handle } else none
  | .handle =>
    if s.dispQ = 0 then some { s with disp := .idle }
    else if reply then some { s with dispQ := s.dispQ - 1, sendQ := s.sendQ ++ [.reply], rxTrig := true, disp := .waitReply }
    else some { s with dispQ := s.dispQ - 1 }
  | .waitReply => if s.replyRes then some { s with replyRes := false, disp := .handle } else none
  | .notStarted => none

def step (v : Variant) (s : St) : Lbl → Option St
  | .connect =>
    -- `_on_connected`: `connection_state.connect()`, `ProtocolDispatcher.start()` (resets the stop flags, creates both threads)
    if s.tcp = .done then
      some { s with tcp := .running, conn := true, prx := .idle, stopRx := false,
                    disp := if s.disp = .notStarted then .idle else s.disp,
                    fed := [], mark := s.delivered.length, rxErr := false, out := [] }
    else none
  | .chunk c => if s.tcp = .running then some { s with buf := s.buf ++ c, rxTrig := true, fed := s.fed ++ c } else none
  | .close => if s.tcp = .running then some { s with tcp := .sepEnq } else none
  | .tcp => stepTcp s
  | .prx ok => stepPrx v s ok
  | .disp reply => stepDisp s reply

/-- **Overlapping connect** (passive TCP transport BEFORE repair 814c548; NOT part of `step`; regression witness only):
`TcpServerConnection` restarted its listener from an
`on_disconnected` listener that is registered before the protocol's own one, i.e. while the old connection's thread is still at `discon`
(…`join`, `clear`, and the reset of its flags).  A peer that connects in that window is accepted by the new server thread, which runs
`_on_connected` (`connection_state.connect()`, `ProtocolDispatcher.start()`: new receiver thread, stop flag reset) concurrently with the old
thread's teardown.  `step`/`run`/`Reachable` describe histories in which a connection is established only after the previous close sequence
has finished (`connect` needs `tcp = done`); this function is what happens otherwise, used by the witness in `Props.C09`. -/
def connectEarly (s : St) : Option St :=
  if s.tcp = .discon ∨ s.tcp = .join ∨ s.tcp = .clear then
    some { s with conn := true, prx := .idle, stopRx := false,
                  disp := if s.disp = .notStarted then .idle else s.disp,
                  fed := [], mark := s.delivered.length, rxErr := false, out := [] }
  else none

def run (v : Variant) : St → List Lbl → Option St
  | s, [] => some s
  | s, l :: ls => match step v s l with
    | some s' => run v s' ls
    | none => none

/-- steps of the endpoint's own threads (everything but the environment) -/
def Lbl.internal : Lbl → Bool
  | .tcp | .prx _ | .disp _ => true
  | _ => false

def TcpPc.closing : TcpPc → Bool
  | .sepEnq | .sepWait | .discon | .join | .clear => true
  | _ => false

/-- the internal labels (finitely many), for decidable quantification -/
def internals : List Lbl := [.tcp, .prx true, .prx false, .disp true, .disp false]

/-- nothing the endpoint's own threads could do -/
def quiescent (v : Variant) (s : St) : Bool := internals.all (fun l => (step v s l).isNone)

/-- **wedged**: the close sequence has begun, is not finished, and no thread of the endpoint can take a step -/
def wedged (v : Variant) (s : St) : Bool := s.tcp.closing && quiescent v s

/-! ## ranking function for the endpoint's own steps -/

def b2n : Bool → Nat
  | true => 1
  | false => 0

def TcpPc.rank : TcpPc → Nat
  | .done => 0 | .clear => 1 | .join => 2 | .discon => 10 | .sepWait => 12 | .sepEnq => 22 | .running => 23
def RxPc.rank : RxPc → Nat
  | .notStarted => 0 | .exited => 0 | .idle => 1 | .loopCheck => 2 | .recv => 4 | .blockedRead => 5 | .send => 6 | .chk => 7
def DispPc.rank : DispPc → Nat
  | .notStarted => 0 | .idle => 0 | .handle => 2 | .waitReply => 3

/-- strictly decreased by every step of the endpoint's own threads -/
def mu (s : St) : Nat :=
  4 * s.buf.length + 11 * s.dispQ + 2 * s.sendQ.length + 7 * b2n s.rxTrig + 3 * b2n s.dispTrig + b2n s.sepRes + b2n s.replyRes
    + s.tcp.rank + s.prx.rank + s.disp.rank

end SecsModel.Model.Wedge

/-!
# Model.TcpStop — the two stop-flag handshakes of the TCP connection classes (hand model of the Python)

`TcpClientConnection.disable / __idle / __connect_thread / __connect` and `TcpServerConnection.disable / __server_thread`, with the
receiver thread of `TcpConnection` (`_start_receiver`, `disconnect`, `__receiver_thread`) as far as the handshakes need it.  Every busy
wait (`while flag: time.sleep(0.2)`, `while self._thread_running: pass`) is modelled as a blocking wait: the step is enabled exactly when
the loop would be left, so a state in which the application thread has no enabled step and nobody can enable it is a hang.
`fixed = true` is the code that exists (`/repo` HEAD, repair 1a14b53: `while flag and thread.is_alive()`, flag reset by the waiter, `continue`
after a failed `select`/`accept`); `fixed = false` is the handshake before that repair, kept for the regression witnesses (F-13).
The close sequence of the receiver thread is one step here: that it terminates is `Props.C09.close_completes`.
-/
namespace SecsModel.Model.TcpStop

/-- application thread: `enable()` has returned, `disable()` is called -/
inductive AppPc
  | before       -- `disable()` not yet called
  | check        -- `if self.enabled:` … `self.enabled = False`
  | alive        -- `if thread and thread.is_alive(): flag = True` (server: also closes the listening socket)
  | spin         -- `while flag: time.sleep(0.2)`
  | disc         -- `self.disconnect()`: `if not self._thread_running: return`; sets `_disconnecting`, `_stop_thread`
  | discWait     -- `while self._thread_running: pass`
  | returned
deriving DecidableEq, Repr

/-- receiver thread of `TcpConnection` -/
inductive RcvPc
  | off
  | run          -- in the `while not self._stop_thread` loop
  | closing      -- close sequence incl. the `_disconnected` listener (restarts the connect/server thread if still enabled)
deriving DecidableEq, Repr

namespace Client

/-- `__connect_thread` -/
inductive ThrPc
  | start              -- `if not self.first_connection and not self.__idle(t5): return`
  | idle (k : Nat)     -- inside `__idle`, `k` sleeps left
  | connect            -- `socket.connect` (blocking; the environment decides)
  | up                 -- `setblocking(0)`, `_connected = True`, `_start_receiver()`
  | listen             -- `self.on_connected(...)`: the listeners run (HSMS state machine, user `connected` handlers)
  | dead
deriving DecidableEq, Repr

/-- sleeps of one `__idle(t5)` call (`int(t5) * 5` in the code; any positive number gives the same picture) -/
def idleSleeps : Nat := 2

structure St where
  enabled : Bool
  flag : Bool          -- `stop_connection_thread`
  first : Bool         -- `first_connection`
  stopRcv : Bool       -- `_stop_thread`
  app : AppPc
  thr : ThrPc
  rcv : RcvPc
deriving DecidableEq, Repr

/-- `enable()` has just returned: the connect thread is started -/
def St.init : St := ⟨true, false, true, false, .before, .start, .off⟩

inductive Lbl
  | app
  | thr (ok : Bool)    -- one step of the connect thread (`ok`: does `socket.connect` succeed, if this step is the connect)
  | rcv
  | peerClose          -- environment: the peer closes an established connection (only outside the listener window)
deriving DecidableEq, Repr

def ThrPc.isAlive : ThrPc → Bool
  | .dead => false
  | _ => true

def step (fixed : Bool) (s : St) : Lbl → Option St
  | .app =>
    match s.app with
    | .before => some { s with app := .check }
    | .check => if s.enabled then some { s with enabled := false, app := .alive } else some { s with app := .returned }
    | .alive => if s.thr.isAlive then some { s with flag := true, app := .spin } else some { s with app := .spin }
    | .spin =>
      if fixed then
        (if s.flag && s.thr.isAlive then none else some { s with flag := false, app := .disc })
      else (if s.flag then none else some { s with app := .disc })
    | .disc => if s.rcv = .off then some { s with app := .returned } else some { s with stopRcv := true, app := .discWait }
    | .discWait => if s.rcv = .off then some { s with app := .returned } else none
    | .returned => none
  | .thr ok =>
    match s.thr with
    | .start => if s.first then some { s with first := false, thr := .connect } else some { s with thr := .idle idleSleeps }
    | .idle k =>
      -- `time.sleep(0.2); if self.stop_connection_thread: self.stop_connection_thread = False; return False`
      if s.flag then some { s with flag := false, thr := .dead }
      else if k ≤ 1 then some { s with first := false, thr := .connect } else some { s with thr := .idle (k - 1) }
    | .connect => if ok then some { s with thr := .up } else some { s with thr := .idle idleSleeps }
    | .up => some { s with rcv := .run, thr := .listen }
    | .listen => some { s with thr := .dead }       -- `return True`: the thread ends, the flag is neither looked at nor reset
    | .dead => none
  | .rcv =>
    match s.rcv with
    | .off => none
    | .run => if s.stopRcv then some { s with rcv := .closing } else none
    | .closing =>
      -- `_disconnected`: `if self.enabled: self.__start_connect_thread()`; then `_thread_running = False; _stop_thread = False`
      if s.enabled && !s.thr.isAlive then some { s with rcv := .off, stopRcv := false, thr := .start }
      else some { s with rcv := .off, stopRcv := false }
  | .peerClose => if s.rcv = .run ∧ s.thr = .dead then some { s with rcv := .closing } else none

def run (fixed : Bool) : St → List Lbl → Option St
  | s, [] => some s
  | s, l :: ls => match step fixed s l with
    | some s' => run fixed s' ls
    | none => none

/-- `disable()` can never return: it waits for a flag only the (finished) connect thread would reset -/
def stuck (s : St) : Bool := s.app = .spin && s.flag && !s.thr.isAlive && !s.enabled

def labels : List Lbl := [.app, .thr true, .thr false, .rcv, .peerClose]

end Client

namespace Server

/-- `__server_thread` -/
inductive ThrPc
  | bind         -- create, bind, listen
  | loop         -- `while not self._stop_server_thread`
  | select       -- `select.select([server_sock], [], [], timeout)` inside `try … except Exception: log`
  | accept       -- `self._server_sock.accept()`
  | up           -- `setblocking(0)`, `_connected = True`, `_start_receiver()`
  | listen       -- `self.on_connected(...)`: the listeners run
  | shutdown     -- `self._server_sock.shutdown(SHUT_RDWR); close(); return`
  | dead
deriving DecidableEq, Repr

structure St where
  enabled : Bool
  flag : Bool            -- `_stop_server_thread`
  sock : Option Bool     -- `_server_sock`: `none` not created yet, `some true` open, `some false` closed
  selRes : Option Bool   -- the local `select_result`: unbound, or whether its first list was non-empty
  stopRcv : Bool
  app : AppPc
  thr : ThrPc
  rcv : RcvPc
deriving DecidableEq, Repr

def St.init : St := ⟨true, false, none, none, false, .before, .bind, .off⟩

inductive Lbl
  | app
  | thr (ready : Bool)   -- one step of the server thread (`ready`: does `select` report a pending connection, if this step is the select)
  | rcv
  | peerClose
deriving DecidableEq, Repr

def ThrPc.isAlive : ThrPc → Bool
  | .dead => false
  | _ => true

/-- `fixed`: the stop-flag handshake after repair 1a14b53 (else the one before); `joins`: `_connection_closed` joins the server thread that
accepted the closed connection before it starts a new one (repair 3d90218; else it starts the new one at once) -/
def stepV (fixed joins : Bool) (s : St) : Lbl → Option St
  | .app =>
    match s.app with
    | .before => some { s with app := .check }
    | .check => if s.enabled then some { s with enabled := false, app := .alive } else some { s with app := .returned }
    | .alive =>
      -- `if thread and thread.is_alive(): flag = True; if self._server_sock: self._server_sock.close(); while flag: …`
      if s.thr.isAlive then some { s with flag := true, sock := s.sock.map (fun _ => false), app := .spin }
      else some { s with app := .disc }
    | .spin =>
      if fixed then
        (if s.flag && s.thr.isAlive then none else some { s with flag := false, app := .disc })
      else (if s.flag then none else some { s with app := .disc })
    | .disc => if s.rcv = .off then some { s with app := .returned } else some { s with stopRcv := true, app := .discWait }
    | .discWait => if s.rcv = .off then some { s with app := .returned } else none
    | .returned => none
  | .thr ready =>
    match s.thr with
    | .bind => some { s with sock := some true, thr := .loop }
    | .loop => if s.flag then some { s with flag := false, thr := .dead } else some { s with thr := .select }
    | .select =>
      if s.sock = some true then
        (if ready then some { s with selRes := some true, thr := .accept } else some { s with selRes := some false, thr := .loop })
      else if ready then
        -- the listening socket was closed by `disable()` while this `select` was waiting on it: the call returns and reports the socket
        -- readable (observed on Linux 6.x / CPython 3.12: `enable(); …; disable()` of an idle passive connection) — `accept` comes next
        some { s with selRes := some true, thr := .accept }
      else
        -- `select` called on the already closed socket: raises `ValueError`, caught and logged; `select_result` keeps its previous
        -- binding (patched: `continue` in the `except` branch, the stop flag is looked at again)
        if fixed then some { s with thr := .loop } else
        match s.selRes with
        | none => some { s with thr := .dead }                 -- `UnboundLocalError`: the thread dies
        | some false => some { s with thr := .loop }
        | some true => some { s with thr := .accept }
    | .accept =>
      if s.sock = some true then some { s with thr := .up }
      else if fixed then some { s with thr := .loop }        -- patched: `except OSError: continue`
      else some { s with thr := .dead }                      -- `EBADF`: the thread dies
    | .up => some { s with rcv := .run, thr := .listen }
    | .listen => some { s with thr := .shutdown }
    | .shutdown => some { s with sock := s.sock.map (fun _ => false), thr := .dead }   -- returns (or dies with `EBADF`): flag not reset
    | .dead => none
  | .rcv =>
    match s.rcv with
    | .off => none
    | .run => if s.stopRcv then some { s with rcv := .closing } else none
    | .closing =>
      -- close sequence, then the `_connection_closed` hook: `if self._enabled:` [join the old server thread] `self.__start_server_thread()`
      if s.enabled then
        if s.thr.isAlive then
          -- the thread that accepted this connection is still in its tail (listeners, close of the listening socket)
          (if joins then none                                         -- `self._server_thread.join()`: wait for it
           else some { s with rcv := .off, stopRcv := false })        -- before 3d90218: the new thread's `bind` fails (EADDRINUSE), it dies
        else some { s with rcv := .off, stopRcv := false, thr := .bind, sock := none, selRes := none }
      else some { s with rcv := .off, stopRcv := false }
  -- the peer may close as soon as the connection exists, also while the accepting thread still runs the `on_connected` listeners
  | .peerClose => if s.rcv = .run then some { s with rcv := .closing } else none

/-- the code that exists joins (`/repo` 3d90218) -/
def step (fixed : Bool) (s : St) : Lbl → Option St := stepV fixed true s

def runV (fixed joins : Bool) : St → List Lbl → Option St
  | s, [] => some s
  | s, l :: ls => match stepV fixed joins s l with
    | some s' => runV fixed joins s' ls
    | none => none

def run (fixed : Bool) : St → List Lbl → Option St := runV fixed true

def stuck (s : St) : Bool := s.app = .spin && s.flag && !s.thr.isAlive && !s.enabled

def labels : List Lbl := [.app, .thr true, .thr false, .rcv, .peerClose]

/-- enabled, but nobody listens and nobody is connected: the endpoint can never be reached again -/
def deaf (s : St) : Bool := s.enabled && !s.thr.isAlive && s.rcv = .off && s.app = .before

end Server

/-- breadth-first closure of a finite transition system given as a successor function (fuel = number of rounds) -/
def closure {σ : Type} [DecidableEq σ] (succ : σ → List σ) : Nat → List σ → List σ → List σ
  | 0, seen, _ => seen
  | n+1, seen, frontier =>
    let next := (frontier.flatMap succ).foldl (fun acc x => if acc.contains x then acc else acc ++ [x]) seen
    let fresh := next.drop seen.length
    if fresh.isEmpty then seen else closure succ n next fresh

end SecsModel.Model.TcpStop
