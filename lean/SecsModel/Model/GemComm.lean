import SecsModel.Gen.Machines
import SecsModel.Gen.Callbacks
import SecsModel.Spec.E30Comm
/-!
# Model.GemComm — `GemHandler`'s communication state handling (hand model of the Python)

Follows `secsgem/gem/handler.py` (`enable`, `disable`, `_on_message_received`, `_on_communicating`, `_on_disconnected`,
`on_connection_closed`, `_on_state_wait_cra`, `_on_state_communicating`) and the timer handlers of
`secsgem/gem/communication_state_machine.py` statement by statement.  What is *generated* and only consulted here:

* `Gen.CommSM.transitions` — the table step `smStep` (lookup by name, source check ⇒ `WrongSourceStateError`);
* `Gen.CommSM.wiring` — which enter/leave handlers arm and cancel the two timers;
* `Gen.Callbacks.commWiring`, `protocolHooks`, `dispatch`, `linkLossStates`, `disconnectedForwards`,
  `communicatingSelects`, `builtin*` — which handler runs on which event, which branch of `_on_message_received`
  dispatches to callbacks, which classes inherit which `_on_sXXfYY`.

The engine (`StateMachine._perform_transition`: leave → switch → enter → called) is reduced to what these handlers see;
the parent state ENABLED has no handlers.  Timers are explicit inputs guarded by the `…Armed` flags.  The boundary is the
one the harness replaces: an in-memory connection and a fake `threading.Timer`.  The link has two levels, as in the code:
`connected` — `HsmsProtocol._on_connected` has started the receiver thread, so whatever is handed to `send_message` is written
(also before the session is selected) — and `selected` — the `communicating` event has fired and inbound data messages pass
the protocol gate.

Two behaviours that the property text rules out are carried as variant flags: `Cfg.sysChecked` (`false` for the code as it
is: the system bytes of an S1F14 are not compared, finding c07-s1f14-system-unchecked) and `Cfg.commackGate` (`true` for the
code as it is since the fix "an inbound S1F13 answered with COMMACK != 0 does not establish communication"; `false` is the
code before it).  The harness finds out on every run which variant the implementation shows and drives the model with it; see
proposals/C07-*.md.
-/
namespace SecsModel.Model.GemComm
open SecsModel SecsModel.Spec.E30Comm

inductive Role | host | equipment
deriving DecidableEq, Repr, Inhabited

structure Cfg where
  role : Role := .equipment
  /-- value returned by `on_commack_requested()` (0 unless a subclass overrides it) -/
  commackReq : Nat := 0
  /-- stream/function callbacks registered by the user (`register_stream_function`) -/
  userCbs : List (Nat × Nat) := []
  /-- variant: an S1F14 is only looked at when its system bytes are those of the outstanding S1F13 (proposal) -/
  sysChecked : Bool := false
  /-- variant: `s1f13received()` only when the COMMACK sent is 0; `true` is the code as it is (gem/handler.py, `if commack == 0:`) -/
  commackGate : Bool := false
deriving Repr

structure State where
  comm : Comm := .disabled
  /-- a transport connection exists: the receiver thread of the protocol runs and writes what is in the send queue -/
  connected : Bool := false
  /-- the HSMS session is selected: inbound data messages reach the handler -/
  selected : Bool := false
  t3Armed : Bool := false
  delayArmed : Bool := false
  /-- number of S1F13 created so far = id of the next one (`get_next_system_counter`, abstracted) -/
  nextSys : Nat := 0
  /-- system bytes of the S1F13 that is outstanding (read only by the `sysChecked` variant) -/
  mySys : Option Nat := none
  /-- S1F13 put into the send queue while no receiver thread runs; written when the link returns -/
  queued : List Nat := []
deriving DecidableEq, Repr, Inhabited

def init : State := {}

/-- the link in the sense of the property ("the current link"): the selected session -/
def State.link (s : State) : Bool := s.selected

inductive SmErr | wrongSource | unknownTransition | unknownState
deriving DecidableEq, Repr

/-- `StateMachine.transition(name)` + the source check of `_perform_transition`, over the generated table -/
def smStep (c : Comm) (t : Trans) : Except SmErr Comm :=
  match Gen.CommSM.transitions.find? (fun r => r.1 == t.name) with
  | none => .error .unknownTransition
  | some (_, srcs, dst) =>
    if srcs.contains c.name then
      match Comm.ofName dst with
      | some d => .ok d
      | none => .error .unknownState
    else .error .wrongSource

/-- `CommunicationStateMachine.__init__`: `self.<state>.events.<ev>.register(self.<handler>)` -/
def smWired (c : Comm) (ev handler : String) : Bool := Gen.CommSM.wiring.contains (c.name, ev, handler)
/-- `GemHandler.__init__`: `self._communication_state.<state>.events.<ev>.register(self.<handler>)` -/
def gemWired (c : Comm) (ev handler : String) : Bool := Gen.Callbacks.commWiring.contains (c.name, ev, handler)
/-- `GemHandler.__init__`: `self._protocol.events.<event> += self.<handler>` -/
def hooked (event handler : String) : Bool := Gen.Callbacks.protocolHooks.contains ("GemHandler", event, handler)

def builtin : Role → List (Nat × Nat)
  | .host => Gen.Callbacks.builtinGemHostHandler
  | .equipment => Gen.Callbacks.builtinGemEquipmentHandler

/-- `name in self._callback_handler` -/
def hasCb (cfg : Cfg) (s f : Nat) : Bool := cfg.userCbs.contains (s, f) || (builtin cfg.role).contains (s, f)

/-- the `leave` handlers of the current state: `_on_state_leave_wait_cra` / `_on_state_leave_wait_delay` cancel their timer -/
def leaveEffects (s : State) : State :=
  let s := if smWired s.comm "leave" "_on_state_leave_wait_cra" then { s with t3Armed := false } else s
  if smWired s.comm "leave" "_on_state_leave_wait_delay" then { s with delayArmed := false } else s

/-- `GemHandler._on_state_wait_cra`: `send_stream_function(S1F13)`.  The system bytes are drawn when the message is
built; `send_message` blocks until the receiver thread has written the block — for ever while there is no connection
(selected or not does not matter). -/
def sendS1F13 (s : State) : State × List Output :=
  let k := s.nextSys
  let s := { s with nextSys := k + 1, mySys := some k }
  if s.connected then (s, [.txS1F13 k]) else ({ s with queued := s.queued ++ [k] }, [.blocked])

/-- the `enter` handlers of the (new) current state, in registration order: the state machine's own (timers), then `GemHandler`'s -/
def enterEffects (s : State) : State × List Output :=
  let s := if smWired s.comm "enter" "_on_state_wait_cra" then { s with t3Armed := true } else s
  let s := if smWired s.comm "enter" "_on_state_wait_delay" then { s with delayArmed := true } else s
  let (s, o1) := if gemWired s.comm "enter" "_on_state_wait_cra" then sendS1F13 s else (s, [])
  let o2 := if gemWired s.comm "enter" "_on_state_communicating" then [Output.evtCommunicating] else []
  (s, o1 ++ o2)

/-- `_perform_transition(name)` as seen by the handlers -/
def perform (s : State) (t : Trans) : State × List Output :=
  match smStep s.comm t with
  | .error _ => (s, [.wrongSource t])
  | .ok dst => enterEffects { leaveEffects s with comm := dst }

/-- the row of `Gen.Callbacks.dispatch` for the current state (the `if/elif` chain of `_on_message_received`) -/
def dispatchRow (c : Comm) : Option (Bool × Bool × Bool × Bool) :=
  (Gen.Callbacks.dispatch.find? (fun r => r.1 == c.name)).map (·.2)

/-- `GemHandler._on_message_received` (reached through the protocol gate: link selected; for an even function such as S1F14
additionally: no caller blocked in `send_and_waitfor_response` waits for these system bytes — the S1F13 is sent with
`send_stream_function`, which opens no such transaction) -/
def onMessage (cfg : Cfg) (s : State) (sf f : Nat) (w : Bool) (sys : Nat) (commack : Option Nat) : State × List Output :=
  match dispatchRow s.comm with
  | none => (s, [])
  | some (dispatches, est13, est14, _) =>
    if est13 && sf == 1 && f == 13 then
      -- send_response(S1F14 {COMMACK: on_commack_requested()}) ; s1f13received()
      let o := [Output.txS1F14 sys cfg.commackReq]
      if cfg.commackGate && cfg.commackReq != 0 then (s, o)
      else
        let r := perform s .s1f13received
        (r.1, o ++ r.2)
    else if est14 && sf == 1 && f == 14 then
      if cfg.sysChecked && s.mySys != some sys then (s, [])
      else
        match commack with
        | none => (s, [])                                   -- decode raises; logged by `_dispatch_block`
        | some 0 => perform s .s1f14received
        | some _ => perform s .communicationreqfail
    else if dispatches then
      -- `_handle_stream_function`
      if hasCb cfg sf f then
        (s, [Output.callback sf f] ++
          (if sf == 1 && f == 13 && !cfg.userCbs.contains (1, 13) then [Output.txS1F14 sys cfg.commackReq] else []))
      else (s, [.unknown sf f w])
    else (s, [])

def step (cfg : Cfg) (s : State) : Input → State × List Output
  | .enable => perform s .enable                            -- `_communication_state.enable()`; `protocol.enable()`
  | .disable => perform s .disable                          -- `protocol.disable()`; `_communication_state.disable()`
  | .linkConnected =>
    if s.connected then (s, [])
    else
      -- `_on_connected` starts the receiver thread: the send queue is written (first frames of the new connection)
      ({ s with connected := true, queued := [] }, s.queued.map Output.txS1F13)
  | .linkSelected =>
    if s.selected then (s, [])                              -- Select.req when selected: Select.rsp, no `communicating` event
    else
      -- (connect first if there is no connection: the send queue is written;) Select.req → `communicating`
      let flushed := s.queued.map Output.txS1F13
      let s := { s with connected := true, selected := true, queued := [] }
      if hooked "communicating" "_on_communicating" && Gen.Callbacks.communicatingSelects then
        let r := perform s .select
        (r.1, flushed ++ r.2)
      else (s, flushed)
  | .linkLost =>
    if !s.connected then (s, [])
    else
      let s := { s with connected := false, selected := false, mySys := if cfg.sysChecked then none else s.mySys }
      if hooked "disconnected" "_on_disconnected" && Gen.Callbacks.disconnectedForwards
          && Gen.Callbacks.linkLossStates.contains s.comm.name then
        perform s .communicationfail
      else (s, [])
  | .rx sf f w sys commack =>
    -- not selected: the protocol layer answers Reject.req (or nothing reads the socket); the handler sees nothing
    if !s.selected then (s, []) else onMessage cfg s sf f w sys commack
  | .t3Expired =>
    if !s.t3Armed then (s, []) else perform { s with t3Armed := false } .communicationreqfail
  | .delayExpired =>
    if !s.delayArmed then (s, []) else perform { s with delayArmed := false } .delayexpired

/-- `GemHandler.waitfor_communicating(0)`: a fresh `threading.Event` is registered, the state is tested, the event is waited
for with no time to pass — what the application is told is whether the state is COMMUNICATING now -/
def reportsEstablished (s : State) : Bool := s.comm == .communicating

/-- run a history, extending the observed trace -/
def runFrom (cfg : Cfg) : State → List Obs → List Input → State × List Obs
  | s, tr, [] => (s, tr)
  | s, tr, i :: is => runFrom cfg (step cfg s i).1 (tr ++ [⟨i, (step cfg s i).2⟩]) is

def run (cfg : Cfg) (h : List Input) : State × List Obs := runFrom cfg init [] h

end SecsModel.Model.GemComm
