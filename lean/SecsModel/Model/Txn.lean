import SecsModel.Basic.Interleave
import SecsModel.Gen.Misc
/-!
# Model.Txn — transactions (system bytes, reply routing) and the dispatcher threads

Hand model of `secsgem/common/protocol.py` (`send_and_waitfor_response`, `send_stream_function`,
`_get_queue_for_system`, `_remove_queue`), the routing branch of
`HsmsProtocol/SecsIProtocol._on_connection_message_received`, and `ProtocolDispatcher`
(`start`, `stop`, `queue_block`, `_dispatcher_thread_function`) as one labelled transition system
over explicit atomic steps (`Basic.Interleave`).  The id allocator is the *generated*
`Gen.Misc.getNextSystemCounter`.

Shared state: the counter, the `_response_queues` dict (`reg`: system bytes ↦ owner of the queue
object), one queue object per caller (`q`), the dispatch queue (`inbox`), the dispatcher threads
(`disp`), the link flag, the messages handed to the application (`delivered`), the ids put on the wire.
Per caller (= one invocation of `send_and_waitfor_response` / `send_stream_function`): a program
counter, its id, its result.  Any number of callers (`callers : Nat → Caller`), any number of dispatcher
threads.  Fields marked *ghost* are history variables: no step reads them.
-/
namespace SecsModel.Model.Txn
open SecsModel

/-- an inbound message: its system bytes and an opaque payload tag -/
structure Msg where
  sys : Int
  tag : Nat
deriving DecidableEq, Repr

/-- the harness encodes `stream * 256 + function` in the tag: a primary message has an odd function -/
def Msg.primary (m : Msg) : Bool := m.tag % 2 == 1

inductive Pc
  | idle        -- before `get_next_system_counter`
  | mid         -- only when the allocator is not atomic: counter written, value not yet read back
  | allocated   -- has its system id
  | registered  -- `_get_queue_for_system` done
  | sent        -- `send_message` returned True, waiting in `response_queue.get(True, t3)`
  | got         -- has a response / timed out / send failed; `_remove_queue` still to run
  | done        -- returned
deriving DecidableEq, Repr

structure Caller where
  pc : Pc := .idle
  id : Int := 0
  /-- returned message; `none` is Python `None` (timeout, failed send) — meaningful once `pc ∈ {got, done}` -/
  result : Option Msg := none
  /-- `_remove_queue` raised `KeyError` (another caller with the same id had already deleted the entry) -/
  keyErr : Bool := false
  /-- ghost: ordinal of this caller's allocation (1-based) -/
  allocAt : Nat := 0
deriving Repr

/-- one dispatcher thread: `stopped` = its per-start stop token is set (patched code only);
`cur = some (m, started)`: it has taken `m` from the dispatch queue; `started` = the application handler runs;
`routing`: between the two statements of the routing branch -/
structure Disp where
  stopped : Bool := false
  cur : Option (Msg × Bool) := none
  /-- the test `message.header.system in self._response_queues` was true; `self._response_queues[...].put_nowait(message)` is still to run -/
  routing : Bool := false
deriving DecidableEq, Repr

/-- can still take part: not stopped, or still holding a message -/
def Disp.active (d : Disp) : Bool := !d.stopped || d.cur.isSome
/-- holds a message whose handler has not started -/
def Disp.unstarted (d : Disp) : Option Msg := match d.cur with | some (m, false) => some m | _ => none
/-- the application handler is running on this thread -/
def Disp.inHandler (d : Disp) : Bool := match d.cur with | some (_, true) => true | _ => false

structure Cfg where
  /-- `get_next_system_counter` is one atomic step (`Gen.Misc.getNextSystemCounterAtomic`) -/
  atomic : Bool
  /-- `ProtocolDispatcher.stop()` sets a per-start stop token for the dispatcher thread (proposal C06-dispatcher-leak) -/
  patched : Bool
  /-- initial counter, `random.randint(0, 2**32 - 1)` -/
  c0 : Int
  /-- only replies (even function) are looked up in `_response_queues`; a primary always goes to the application.
  `true` = the code as it is (`self._response_queues.get(system) if function % 2 == 0 else None`, hsms/protocol.py and
  secsi/protocol.py); `false` = the code before that repair, routing by system bytes alone (finding C06-primary-system-bytes) -/
  replyOnly : Bool := false

structure State where
  counter : Int
  callers : Nat → Caller
  reg : Int → Option Nat
  q : Nat → List Msg
  inbox : List Msg
  /-- number of bytes of an incomplete frame sitting in the receive buffer (`_receive_buffer`) -/
  stale : Nat
  disp : List Disp
  up : Bool
  delivered : List Msg
  wire : List Int
  /-- ghost: number of allocations so far -/
  allocs : Nat
  /-- ghost: every message the receive path queued, in arrival order -/
  arrived : List Msg
  /-- ghost: messages taken from the dispatch queue, in that order -/
  popped : List Msg
  /-- ghost: messages whose routing decision was taken, in that order; `true` = put to a response queue -/
  handled : List (Msg × Bool)
  /-- ghost: messages for which `_response_queues[system]` raised `KeyError` (entry deleted between test and put): swallowed by `_dispatch_block` -/
  lost : List Msg
  /-- ghost: number of `start()` calls -/
  ups : Nat
  /-- ghost: at some point more than one dispatcher thread was active -/
  everTwo : Bool

inductive Step
  | alloc (c : Nat) | allocRmw (c : Nat) | allocRet (c : Nat)
  | register (c : Nat) | send (c : Nat) | sendFail (c : Nat) | fire (c : Nat)
  | recv (c : Nat) | timeout (c : Nat) | unregister (c : Nat)
  | rxPart (n : Nat) | rx (m : Msg) | pop (d : Nat) | handle (d : Nat) | put (d : Nat) | finish (d : Nat)
  | linkDown | linkUp
deriving DecidableEq, Repr

def upd {κ α : Type} [DecidableEq κ] (f : κ → α) (k : κ) (v : α) : κ → α := fun j => if j = k then v else f j

@[simp] theorem upd_same {κ α : Type} [DecidableEq κ] (f : κ → α) (k : κ) (v : α) : upd f k v k = v := by simp [upd]
theorem upd_other {κ α : Type} [DecidableEq κ] (f : κ → α) (k j : κ) (v : α) (h : j ≠ k) : upd f k v j = f j := by simp [upd, h]

/-- the generated allocator: `(returned id, new counter)` -/
def next (counter : Int) : Option (Int × Int) :=
  match Gen.Misc.getNextSystemCounter counter with
  | .ok r => some r
  | .error _ => none

def init (cfg : Cfg) : State where
  counter := cfg.c0
  callers := fun _ => {}
  reg := fun _ => none
  q := fun _ => []
  inbox := []
  stale := 0
  disp := []
  up := false
  delivered := []
  wire := []
  allocs := 0
  arrived := []
  popped := []
  handled := []
  lost := []
  ups := 0
  everTwo := false

def active (s : State) : Nat := s.disp.countP Disp.active
def live (s : State) : Nat := s.disp.countP (fun d => !d.stopped)
def busy (s : State) : Nat := s.disp.countP Disp.inHandler
def held (s : State) : List Msg := s.disp.filterMap Disp.unstarted

/-- one atomic step, without the `everTwo` bookkeeping -/
def step0 (cfg : Cfg) (s : State) : Step → Option State
  | .alloc c =>
    let k := s.callers c
    if cfg.atomic ∧ k.pc = .idle then
      match next s.counter with
      | some (id, cnt) =>
        some { s with counter := cnt, allocs := s.allocs + 1, callers := upd s.callers c { k with pc := .allocated, id := id, allocAt := s.allocs + 1 } }
      | none => none
    else none
  | .allocRmw c =>
    let k := s.callers c
    if ¬ cfg.atomic ∧ k.pc = .idle then
      match next s.counter with
      | some (_, cnt) =>
        some { s with counter := cnt, allocs := s.allocs + 1, callers := upd s.callers c { k with pc := .mid, allocAt := s.allocs + 1 } }
      | none => none
    else none
  | .allocRet c =>
    let k := s.callers c
    if ¬ cfg.atomic ∧ k.pc = .mid then
      some { s with callers := upd s.callers c { k with pc := .allocated, id := s.counter } }
    else none
  | .register c =>
    let k := s.callers c
    if k.pc = .allocated then
      some { s with reg := upd s.reg k.id (some c), q := upd s.q c [], callers := upd s.callers c { k with pc := .registered } }
    else none
  | .send c =>
    let k := s.callers c
    if k.pc = .registered ∧ s.up then
      some { s with wire := s.wire ++ [k.id], callers := upd s.callers c { k with pc := .sent } }
    else none
  | .sendFail c =>
    let k := s.callers c
    if k.pc = .registered ∧ s.up then
      some { s with callers := upd s.callers c { k with pc := .got, result := none } }
    else none
  | .fire c =>
    let k := s.callers c
    if k.pc = .allocated ∧ s.up then
      some { s with wire := s.wire ++ [k.id], callers := upd s.callers c { k with pc := .done } }
    else none
  | .recv c =>
    let k := s.callers c
    if k.pc = .sent then
      match s.q c with
      | m :: rest => some { s with q := upd s.q c rest, callers := upd s.callers c { k with pc := .got, result := some m } }
      | [] => none
    else none
  | .timeout c =>
    let k := s.callers c
    if k.pc = .sent then
      match s.q c with
      | [] => some { s with callers := upd s.callers c { k with pc := .got, result := none } }
      | _ :: _ => none
    else none
  | .unregister c =>
    let k := s.callers c
    if k.pc = .got then
      match s.reg k.id with
      | some _ => some { s with reg := upd s.reg k.id none, callers := upd s.callers c { k with pc := .done } }
      | none => some { s with callers := upd s.callers c { k with pc := .done, keyErr := true, result := none } }
    else none
  | .rxPart n =>
    -- bytes of a frame that is not complete yet: `_process_received_data` leaves them in the receive buffer
    if s.up ∧ 0 < n then some { s with stale := s.stale + n } else none
  | .rx m =>
    -- the (rest of the) frame arrived: it is cut off the receive buffer, decoded and queued for dispatch
    if s.up then some { s with inbox := s.inbox ++ [m], arrived := s.arrived ++ [m], stale := 0 } else none
  | .pop d =>
    match s.disp[d]?, s.inbox with
    | some dd, m :: rest =>
      if dd.stopped = false ∧ dd.cur = none then
        some { s with inbox := rest, popped := s.popped ++ [m], disp := s.disp.set d { dd with cur := some (m, false) } }
      else none
    | _, _ => none
  | .handle d =>
    -- `response_queue = self._response_queues.get(system) if function % 2 == 0 else None` (without the condition when
    -- `replyOnly = false`); `if response_queue is not None:` … `else: self.events.fire("message_received", …)`
    match s.disp[d]? with
    | some dd =>
      match dd.cur with
      | some (m, false) =>
        if dd.routing then none else
        match (if cfg.replyOnly && m.primary then none else s.reg m.sys) with
        | some _ => some { s with disp := s.disp.set d { dd with routing := true } }
        | none =>
          some { s with delivered := s.delivered ++ [m], handled := s.handled ++ [(m, false)], disp := s.disp.set d { dd with cur := some (m, true) } }
      | _ => none
    | none => none
  | .put d =>
    -- `response_queue.put_nowait(message)`.  The model looks the queue up again here (as the code did before the repair,
    -- where a `KeyError` was swallowed by `_dispatch_block`); the code now keeps the queue object found in `handle`
    match s.disp[d]? with
    | some dd =>
      match dd.cur with
      | some (m, false) =>
        if dd.routing then
          match s.reg m.sys with
          | some c =>
            some { s with q := upd s.q c (s.q c ++ [m]), handled := s.handled ++ [(m, true)], disp := s.disp.set d { dd with cur := none, routing := false } }
          | none =>
            some { s with lost := s.lost ++ [m], handled := s.handled ++ [(m, true)], disp := s.disp.set d { dd with cur := none, routing := false } }
        else none
      | _ => none
    | none => none
  | .finish d =>
    match s.disp[d]? with
    | some dd =>
      match dd.cur with
      | some (_, true) => some { s with disp := s.disp.set d { dd with cur := none } }
      | _ => none
    | none => none
  | .linkDown =>
    if s.up then
      -- `_on_disconnected`: `self._thread.stop()`, `self._receive_buffer.clear()` (the dispatch queue is NOT cleared)
      some { s with up := false, stale := 0, disp := if cfg.patched then s.disp.map (fun d => { d with stopped := true }) else s.disp }
    else none
  | .linkUp =>
    if s.up then none else
      some { s with up := true, disp := s.disp ++ [{}], ups := s.ups + 1 }

/-- ghost bookkeeping after a step -/
def mark (s : State) : State := { s with everTwo := s.everTwo || decide (1 < active s) }

def step (cfg : Cfg) (s : State) (i : Step) : Option State := (step0 cfg s i).map mark

def sys (cfg : Cfg) : Sys State Step where
  init := init cfg
  step := step cfg

/-- has an id and has not returned -/
def Pc.hasId : Pc → Bool
  | .allocated | .registered | .sent | .got => true
  | _ => false

end SecsModel.Model.Txn
